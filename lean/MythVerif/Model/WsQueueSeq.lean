import MythVerif.Basic.Upd
/-! Sequential model of the work-stealing queue of `src/myth_wsqueue_func.h` (and of the two
    queue functions of `src/myth_if_native.c`: `myth_wsapi_runqueue_take` with its decision
    callback and the caching `myth_wsapi_runqueue_peek`).

    Every operation is transcribed statement by statement as a pure function on the fields the
    C code works on: `top`, `base`, the slot array `ptr` (a total function `Int → Option Elem`,
    so that an out-of-range index is representable and has to be *proved* absent), `size`, and
    the pointer word of the steal cache `wc.ptr`.  Configuration modelled: `MYTH_QUEUE_LIFO=1`,
    `QUICK_CHECK_ON_POP=1`, `QUICK_CHECK_ON_STEAL=1`, `USE_LOCK*=0`.  `myth_assert` is live in this
    configuration (`MYTH_SANITY_CHECK=1`): the assertion that is a *contract* – `clear` on an empty
    queue – is an explicit outcome; the others (`offset<0`, `t<size`, `b>0`, `base>0`) are implied by
    well-formedness (`WF` in `Proofs/WsQueueSeq.lean`; clauses `pum/puv/pt3/pt7` of the SC invariant,
    `Proofs/WsQueueInv.lean`).  The
    two `abort()` guards are explicit outcomes. -/
namespace MythVerif.Wsq

abbrev Elem := Nat

/-- the C integer division `(-b-1)/2` of push's re-centring (truncation toward zero) -/
def rcOff (b : Int) : Int := Int.tdiv (-b - 1) 2

/-- `memmove(&ptr[lo+off], &ptr[lo], hi-lo)` on the slot function -/
def shiftPtr (f : Int → Option Elem) (lo hi off : Int) : Int → Option Elem :=
  fun j => if lo + off ≤ j ∧ j < hi + off then f (j - off) else f j

theorem shiftPtr_apply (f : Int → Option Elem) (lo hi off j : Int) :
    shiftPtr f lo hi off j = if lo + off ≤ j ∧ j < hi + off then f (j - off) else f j := rfl

structure Q where
  top : Int
  base : Int
  ptr : Int → Option Elem
  size : Int
  cache : Option Elem      -- wc.ptr of the steal cache (NULL = none)

/-- `myth_queue_init` -/
def Q.init (n : Int) : Q :=
  { top := n / 2, base := n / 2, ptr := fun _ => none, size := n, cache := none }

inductive Res where
  | unit                       -- void operations
  | val (r : Option Elem)      -- pop / take / peek: a thread or NULL
  | ok (b : Bool)              -- trypass
  | abort                      -- "Fatal error:Runqueue overflow" + abort()
  | diverge                    -- myth_queue_pass spinning on a queue whose base is 0
  | assertFail                 -- myth_queue_clear on a non-empty queue (myth_assert(top==base))
  deriving DecidableEq, Repr

inductive Op where
  | push (e : Elem) | pop | take | wtake (accept : Bool) | peek | wpeek
  | trypass (e : Elem) | pass (e : Elem) | put (e : Elem) | clear
  deriving DecidableEq, Repr

/-- push's re-centring block (taken at `top == size`, `base != 0`) -/
def recentreDown (q : Q) : Q :=
  let off := rcOff q.base
  { q with ptr := shiftPtr q.ptr q.base q.top off, top := q.top + off, base := q.base + off }

/-- put's shift block (taken at `base == 0`, `top != size`) -/
def recentreUp (q : Q) : Q :=
  let off := (q.size - q.top + 1) / 2
  { q with ptr := shiftPtr q.ptr q.base q.top off, top := q.top + off, base := q.base + off }

def push (q : Q) (e : Elem) : Q × Res :=
  if q.top = q.size then
    if q.base = 0 then (q, .abort)
    else
      let q1 := recentreDown q
      ({ q1 with ptr := upd q1.ptr q1.top (some e), top := q1.top + 1 }, .unit)
  else ({ q with ptr := upd q.ptr q.top (some e), top := q.top + 1 }, .unit)

def pop (q : Q) : Q × Res :=
  if q.top ≤ q.base then (q, .val none)            -- quick check
  else
    let top := q.top - 1
    let q1 := { q with top := top }
    if q1.base + 1 < top then (q1, .val (q1.ptr top))
    else if q1.base ≤ top then
      let ret := q1.ptr top
      let q2 := { q1 with ptr := upd q1.ptr top none }
      -- invalidate the steal cache when the last entry went away
      (if top ≤ q2.base then { q2 with cache := none } else q2, .val ret)
    else ({ q1 with top := q1.size / 2, base := q1.size / 2 }, .val none)

def take (q : Q) : Q × Res :=
  if q.top - q.base ≤ 0 then (q, .val none)
  else
    let b := q.base
    let q1 := { q with base := b + 1 }
    if b < q1.top then (q1, .val (q1.ptr b))
    else ({ q1 with base := b }, .val none)

/-- `myth_wsapi_runqueue_take(victim, decidefn, udata)`; `accept` is the callback's verdict
    (a NULL callback accepts) -/
def wtake (q : Q) (accept : Bool) : Q × Res :=
  if q.top - q.base ≤ 0 then (q, .val none)
  else
    let b := q.base
    let q1 := { q with base := b + 1 }
    if b < q1.top then
      if accept then ({ q1 with cache := none }, .val (q1.ptr b))
      else ({ q1 with base := b }, .val none)
    else ({ q1 with base := b }, .val none)

/-- `myth_queue_peek` -/
def peek (q : Q) : Q × Res :=
  if q.top - q.base ≤ 0 then (q, .val none)
  else if q.base < q.top then (q, .val (q.ptr q.base)) else (q, .val none)

/-- `myth_wsapi_runqueue_peek` (pointer word of the cache only) -/
def wpeek (q : Q) : Q × Res :=
  if q.top - q.base ≤ 0 then (q, .val none)
  else
    match q.cache with
    | some x => (q, .val (some x))
    | none =>
      let b := q.base
      let q1 := { q with base := b + 1 }
      let q2 := if b < q1.top then { q1 with cache := q1.ptr b } else q1
      let q3 := { q2 with base := b }
      (q3, .val q3.cache)

def trypass (q : Q) (e : Elem) : Q × Res :=
  if q.base = 0 then (q, .ok false)
  else
    let b := q.base
    ({ q with ptr := upd q.ptr (b - 1) (some e), base := b - 1 }, .ok true)

def pass (q : Q) (e : Elem) : Q × Res :=
  if q.base = 0 then (q, .diverge)
  else ((trypass q e).1, .unit)

def put (q : Q) (e : Elem) : Q × Res :=
  if q.base = 0 then
    if q.top = q.size then (q, .abort)
    else
      let q1 := recentreUp q
      let b := q1.base - 1
      ({ q1 with ptr := upd q1.ptr b (some e), base := b }, .unit)
  else
    let b := q.base - 1
    ({ q with ptr := upd q.ptr b (some e), base := b }, .unit)

def clear (q : Q) : Q × Res :=
  if q.top = q.base then ({ q with base := q.size / 2, top := q.size / 2 }, .unit)
  else (q, .assertFail)

def exec (q : Q) : Op → Q × Res
  | .push e => push q e
  | .pop => pop q
  | .take => take q
  | .wtake a => wtake q a
  | .peek => peek q
  | .wpeek => wpeek q
  | .trypass e => trypass q e
  | .pass e => pass q e
  | .put e => put q e
  | .clear => clear q

/-- a result after which the C program does not continue -/
def Res.fatal : Res → Bool
  | .abort | .diverge | .assertFail => true
  | _ => false

/-- step function of sequential histories: a fatal outcome ends the history -/
def seqStep (q : Q) (op : Op) : Option Q :=
  if (exec q op).2.fatal then none else some (exec q op).1

/-- the slots `f b, f (b+1), …, f (b+n-1)` -/
def slots (f : Int → Option Elem) (b : Int) : Nat → List (Option Elem)
  | 0 => []
  | n + 1 => f b :: slots f (b + 1) n

/-- abstraction: the contents of the slots `[base, top)`, base side first -/
def Q.abs (q : Q) : List (Option Elem) := slots q.ptr q.base (q.top - q.base).toNat

end MythVerif.Wsq
