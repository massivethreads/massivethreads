import MythVerif.Proofs.Env
/-!
Model of the `MYTH_CPU_LIST` parser of `src/myth_bind_worker.c`
(`cur_char / next_char / parse_int / parse_range / parse_range_list / myth_parse_cpu_list`,
`int_list_add`, `myth_get_available_cpus`, `myth_get_worker_cpu`), statement by statement.

* the character stream `cs->a + cs->i` is the remaining suffix `rest`; `i` and `ok_pos` are kept
  because `parse_error` prints them (the caret line);
* `next_char` has two explicit failure outcomes: `.abort` = the assertion
  `assert(cs->a[cs->i] != '\n')` of the pinned snapshot fails (`chk = true` is the pinned code,
  `chk = false` the current source, where the assertion is gone), `.overrun` = the stream would
  be advanced past the terminating NUL (a read outside the string);
* `int` arithmetic wraps (`wrap32`): ISO C leaves signed overflow undefined, the library is
  compiled without optimisation and the harness observes two's-complement wrapping;
* the output array `a[0..n)` is the list of entries written so far (`int_list_add` refuses when
  `n` entries are there).
Recursion: the digit loop and the fill loop are structural; the comma loop of
`parse_range_list` is by well-founded recursion on the remaining suffix (every iteration consumes
the comma), accepted by Lean without fuel.
-/
namespace MythVerif.CpuList
open MythVerif.Env

inductive DiagKind where
  | expectedDigit   -- "expected a digit"
  | junk            -- "junk at the end of CPU list"
  | tooMany         -- "too many numbers in MYTH_CPU_LIST"
  deriving Repr, DecidableEq

/-- what `parse_error` prints: the message, `2 + ok_pos` blanks, `i - ok_pos` carets -/
structure Diag where
  kind : DiagKind
  okPos : Nat
  pos : Nat
  deriving Repr, DecidableEq

/-- `char_stream`: `rest = a + i` -/
structure Stream where
  rest : CStr
  i : Nat
  ok : Nat
  deriving Repr, DecidableEq

def nul : Char := Char.ofNat 0

/-- `cur_char` -/
def cur (s : Stream) : Char := s.rest.headD nul

inductive NextR where
  | ok (s : Stream)
  | abort
  | overrun
  deriving Repr, DecidableEq

/-- `next_char`: `assert(cs->a[cs->i] != '\n')` (pinned only), `cs->i++` -/
def next (chk : Bool) (s : Stream) : NextR :=
  match s.rest with
  | [] => .overrun
  | c :: cs =>
    if c = nul then .overrun
    else if chk && c = '\n' then .abort
    else .ok { rest := cs, i := s.i + 1, ok := s.ok }

/-- `set_ok_pos` -/
def setOk (s : Stream) : Stream := { s with ok := s.i }

inductive IntR where
  | val (s : Stream) (x : Int)
  | ng (d : Option Diag)      -- `-1`; `none`: the digits wrapped to exactly -1, no message
  | abort
  | overrun
  deriving Repr, DecidableEq

/-- the `while (isdigit(cur_char(cs)))` loop of `parse_int`; returns stream, `x`, `n_digits` -/
def digitsLoop (chk : Bool) (ok : Nat) : CStr → Nat → Int → Nat → Option (Stream × Int × Nat)
  | [], i, x, nd => some ({ rest := [], i := i, ok := ok }, x, nd)
  | c :: cs, i, x, nd =>
    if isDigit c then
      if chk && c = '\n' then none      -- `next_char`'s assertion; a digit is never a newline
      else digitsLoop chk ok cs (i + 1) (wrap32 (x * 10 + digitVal c)) (nd + 1)
    else some ({ rest := c :: cs, i := i, ok := ok }, x, nd)

/-- `parse_int`: a non-negative number, or -1 -/
def parseInt (chk : Bool) (s : Stream) : IntR :=
  match digitsLoop chk s.ok s.rest s.i 0 0 with
  | none => .abort
  | some (s', x, nd) =>
    if nd = 0 then .ng (some { kind := .expectedDigit, okPos := s'.ok, pos := s'.i })
    else if x = -1 then .ng none
    else .val s' x

/-- `for (x = a; x < b; x += c) if (!int_list_add(il, x)) fail`: `room` = `n - il->i` -/
def fill (b c : Int) : Nat → Int → List Int → Bool × List Int
  | 0, x, out => if x < b then (false, out) else (true, out)
  | room + 1, x, out =>
    if x < b then fill b c room (wrap32 (x + c)) (out ++ [x]) else (true, out)

inductive R where
  | ok (s : Stream) (out : List Int)
  | ng (d : Option Diag) (out : List Int)
  | abort
  | overrun
  deriving Repr, DecidableEq

/-- the part of `parse_range` after the first number: optional `-b` and `:c` -/
inductive TailR where
  | ok (s : Stream) (b c : Int)
  | ng (d : Option Diag)
  | abort
  | overrun

def parseTail (chk : Bool) (s1 : Stream) (a : Int) : TailR :=
  if cur s1 = '-' then
    match next chk s1 with
    | .abort => .abort
    | .overrun => .overrun
    | .ok s2 =>
      match parseInt chk s2 with
      | .abort => .abort
      | .overrun => .overrun
      | .ng d => .ng d
      | .val s3 b =>
        if cur s3 = ':' then
          match next chk s3 with
          | .abort => .abort
          | .overrun => .overrun
          | .ok s4 =>
            match parseInt chk s4 with
            | .abort => .abort
            | .overrun => .overrun
            | .ng d => .ng d
            | .val s5 c => .ok s5 b c
        else .ok s3 b 1
  else .ok s1 (wrap32 (a + 1)) 1

/-- `parse_range`: `a`, `a-b` or `a-b:c`, appended to the list (`cap` = `il->n`) -/
def parseRange (chk : Bool) (cap : Nat) (s : Stream) (out : List Int) : R :=
  match parseInt chk s with
  | .abort => .abort
  | .overrun => .overrun
  | .ng d => .ng d out
  | .val s1 a =>
    match parseTail chk s1 a with
    | .abort => .abort
    | .overrun => .overrun
    | .ng d => .ng d out
    | .ok s' b c =>
      match fill b c (cap - out.length) a out with
      | (true, out') => .ok s' out'
      | (false, out') => .ng (some { kind := .tooMany, okPos := s'.ok, pos := s'.i }) out'

/-! ### what a successful step consumed

The grammar is `range (',' range)*`, `range ::= a | a-b | a-b:c`, numbers as digit strings.
Whatever `parse_range` accepts is a range of it; in particular the stream does not grow, which is
why the comma loop below terminates. -/

/-- a number token: a non-empty string of decimal digits -/
def Tok (ds : CStr) : Prop := ds ≠ [] ∧ AllDigits ds

inductive RangeS where
  | single (a : CStr)
  | span (a b : CStr)
  | stride (a b c : CStr)

def RangeS.render : RangeS → CStr
  | .single a => a
  | .span a b => a ++ '-' :: b
  | .stride a b c => a ++ '-' :: (b ++ ':' :: c)

/-- syntactic well-formedness: every number is a non-empty digit string -/
def RangeS.Syn : RangeS → Prop
  | .single a => Tok a
  | .span a b => Tok a ∧ Tok b
  | .stride a b c => Tok a ∧ Tok b ∧ Tok c

theorem noDigit_cons (c : Char) (t : CStr) (h : isDigit c = false) : NoDigitHead (c :: t) := by
  intro d hd; simp at hd; subst hd; exact h

theorem digitsLoop_split (chk : Bool) (ok : Nat) : ∀ (l : CStr) (i : Nat) (x : Int) (nd : Nat)
    (s' : Stream) (x' : Int) (nd' : Nat), digitsLoop chk ok l i x nd = some (s', x', nd') →
      ∃ ds, l = ds ++ s'.rest ∧ AllDigits ds ∧ NoDigitHead s'.rest ∧ nd' = nd + ds.length := by
  intro l
  induction l with
  | nil =>
    intro i x nd s' x' nd' h
    simp [digitsLoop] at h
    refine ⟨[], ?_, ?_, ?_, ?_⟩
    · rw [← h.1]; rfl
    · intro c hc; cases hc
    · rw [← h.1]; intro c hc; simp at hc
    · simp [h.2.2]
  | cons c cs ih =>
    intro i x nd s' x' nd' h
    simp only [digitsLoop] at h
    split at h
    · rename_i hd
      split at h
      · simp at h
      · obtain ⟨ds, h1, h2, h3, h4⟩ := ih _ _ _ _ _ _ h
        refine ⟨c :: ds, by simp [h1], ?_, h3, by simp [h4]; omega⟩
        intro d hd'; simp at hd'; cases hd' with
        | inl h => subst h; exact hd
        | inr h => exact h2 d h
    · rename_i hd
      simp at h
      refine ⟨[], ?_, ?_, ?_, ?_⟩
      · rw [← h.1]; rfl
      · intro d hd'; cases hd'
      · rw [← h.1]; exact noDigit_cons c cs (by simpa using hd)
      · simp [h.2.2]

theorem parseInt_split (chk : Bool) (s s' : Stream) (x : Int) (h : parseInt chk s = .val s' x) :
    ∃ ds, s.rest = ds ++ s'.rest ∧ Tok ds ∧ NoDigitHead s'.rest := by
  unfold parseInt at h
  split at h
  · simp at h
  · rename_i s1 x1 nd heq
    split at h
    · simp at h
    · rename_i hnd
      split at h
      · simp at h
      · simp at h
        obtain ⟨ds, h1, h2, h3, h4⟩ := digitsLoop_split chk _ _ _ _ _ _ _ _ heq
        rw [h.1] at h1 h3
        refine ⟨ds, h1, ⟨?_, h2⟩, h3⟩
        intro hds; subst hds; simp at h4; exact hnd h4

theorem next_split (chk : Bool) (s s' : Stream) (h : next chk s = .ok s') :
    s.rest = cur s :: s'.rest ∧ cur s ≠ nul := by
  unfold next at h
  split at h
  · simp at h
  · rename_i c cs heq
    split at h
    · simp at h
    · rename_i hc
      split at h
      · simp at h
      · simp at h; rw [← h]; simp [cur, heq, hc]

theorem parseTail_split (chk : Bool) (s s' : Stream) (a b c : Int) (h : parseTail chk s a = .ok s' b c) :
    (s' = s ∧ cur s ≠ '-') ∨
    (∃ bs, Tok bs ∧ s.rest = '-' :: (bs ++ s'.rest) ∧ cur s' ≠ ':' ∧ NoDigitHead s'.rest) ∨
    (∃ bs cs, Tok bs ∧ Tok cs ∧ s.rest = '-' :: (bs ++ ':' :: (cs ++ s'.rest)) ∧ NoDigitHead s'.rest) := by
  unfold parseTail at h
  split at h
  · rename_i hc1
    split at h <;> try (simp at h; done)
    rename_i s2 h2
    split at h <;> try (simp at h; done)
    rename_i s3 b3 h3
    obtain ⟨hr2, _⟩ := next_split chk _ _ h2
    rw [hc1] at hr2
    obtain ⟨bs, hb1, hb2, hb3⟩ := parseInt_split chk _ _ _ h3
    split at h
    · rename_i hc3
      split at h <;> try (simp at h; done)
      rename_i s4 h4
      split at h <;> try (simp at h; done)
      rename_i s5 c5 h5
      obtain ⟨hr4, _⟩ := next_split chk _ _ h4
      rw [hc3] at hr4
      obtain ⟨cs, hc1', hc2', hc3'⟩ := parseInt_split chk _ _ _ h5
      simp at h
      right; right
      refine ⟨bs, cs, hb2, hc2', ?_, ?_⟩
      · rw [← h.1, hr2, hb1, hr4, hc1']
      · rw [← h.1]; exact hc3'
    · rename_i hc3
      simp at h
      right; left
      refine ⟨bs, hb2, ?_, ?_, ?_⟩
      · rw [← h.1, hr2, hb1]
      · rw [← h.1]; exact hc3
      · rw [← h.1]; exact hb3
  · rename_i hc1
    simp at h
    left; exact ⟨h.1.symm, hc1⟩

theorem parseRange_split (chk : Bool) (cap : Nat) (s s' : Stream) (out out' : List Int)
    (h : parseRange chk cap s out = .ok s' out') :
    ∃ r : RangeS, r.Syn ∧ s.rest = r.render ++ s'.rest := by
  unfold parseRange at h
  split at h <;> try (simp at h; done)
  rename_i s1 a h1
  split at h <;> try (simp at h; done)
  rename_i s2 b c h2
  obtain ⟨as, ha1, ha2, _⟩ := parseInt_split chk _ _ _ h1
  have hs2 : s' = s2 := by
    split at h
    · simp at h; exact h.1.symm
    · simp at h
  subst hs2
  rcases parseTail_split chk _ _ _ _ _ h2 with ⟨he, _⟩ | ⟨bs, hb, hr, _, _⟩ | ⟨bs, cs, hb, hc, hr, _⟩
  · exact ⟨.single as, ha2, by rw [he]; exact ha1⟩
  · exact ⟨.span as bs, ⟨ha2, hb⟩, by rw [ha1, hr]; simp [RangeS.render]⟩
  · exact ⟨.stride as bs cs, ⟨ha2, hb, hc⟩, by rw [ha1, hr]; simp [RangeS.render]⟩

theorem next_len (chk : Bool) (s s' : Stream) (h : next chk s = .ok s') :
    s'.rest.length + 1 = s.rest.length := by
  rw [(next_split chk s s' h).1]; rfl

theorem parseRange_len (chk : Bool) (cap : Nat) (s s' : Stream) (out out' : List Int)
    (h : parseRange chk cap s out = .ok s' out') : s'.rest.length ≤ s.rest.length := by
  obtain ⟨r, _, hr⟩ := parseRange_split chk cap s s' out out' h
  rw [hr, List.length_append]; omega

/-- the `while (cur_char(cs) == ',')` loop of `parse_range_list` and the junk test after it -/
def rangeLoop (chk : Bool) (cap : Nat) (s : Stream) (out : List Int) : R :=
  if cur s = ',' then
    match hn : next chk s with
    | .abort => .abort
    | .overrun => .overrun
    | .ok s1 =>
      match hr : parseRange chk cap s1 out with
      | .ok s2 out2 =>
        have : s2.rest.length < s.rest.length := by
          have := next_len chk _ _ hn
          have := parseRange_len chk cap _ _ _ _ hr
          omega
        rangeLoop chk cap (setOk s2) out2
      | r => r
  else if cur s ≠ nul then
    match next chk s with
    | .abort => .abort
    | .overrun => .overrun
    | .ok s1 => .ng (some { kind := .junk, okPos := s1.ok, pos := s1.i }) out
  else .ok s out
termination_by s.rest.length
decreasing_by simpa [setOk] using this

/-- `parse_range_list` -/
def parseRangeList (chk : Bool) (cap : Nat) (s : Stream) (out : List Int) : R :=
  match parseRange chk cap s out with
  | .ok s1 out1 => rangeLoop chk cap (setOk s1) out1
  | r => r

inductive Outcome where
  | ret (r : Int) (written : List Int) (d : Option Diag)
  | abort
  | overrun
  deriving Repr, DecidableEq

/-- `myth_parse_cpu_list(var, a, n)`: `env = getenv(var)`, `cap = n`; the result is the return
    value (`-1` on a parse error, else the number of entries), the entries written to `a` and the
    diagnostic printed -/
def parseCpuList (chk : Bool) (env : Option CStr) (cap : Nat) : Outcome :=
  match env with
  | none => .ret 0 [] none
  | some str =>
    match parseRangeList chk cap { rest := str, i := 0, ok := 0 } [] with
    | .ok _ out => .ret out.length out none
    | .ng d out => .ret (-1) out d
    | .abort => .abort
    | .overrun => .overrun

/-- `N_MAX_CPUS` = `CPU_SETSIZE` (printed by the unit harness and compared on every run) -/
def nMaxCpus : Nat := 1024

/-- `CPU_ISSET(c, &cset)` for an `int` argument: the macro converts to `size_t` and tests the
    bound first, so negative and too large numbers are simply "not in the set" -/
def cpuIsSet (avail : Nat → Bool) (c : Int) : Bool :=
  decide (0 ≤ c) && decide (c < nMaxCpus) && avail c.toNat

structure Avail where
  workerCpu : List Int      -- `worker_cpu[0 .. n_available_cpus)`
  malformed : Bool          -- "myth: malformed MYTH_CPU_LIST ignored" printed
  noCpus : Bool             -- "myth: could not get any available CPUs…" printed
  deriving Repr, DecidableEq

/-- `myth_get_available_cpus` (with `HAVE_SYSCONF`, `HAVE_SCHED_GETAFFINITY`); `ncpu` is
    `sysconf(_SC_NPROCESSORS_ONLN)`, `avail` the affinity mask.  `none` = the parser aborted. -/
def availableCpus (chk : Bool) (env : Option CStr) (ncpu : Nat) (avail : Nat → Bool) : Option Avail :=
  match parseCpuList chk env nMaxCpus with
  | .abort => none
  | .overrun => none
  | .ret r written _ =>
    let malformed := decide (r = -1)
    let nspec : Int := if r = -1 then 0 else r
    let list : List Int := if nspec = 0 then (List.range ncpu).map (fun (i : Nat) => (i : Int)) else written
    let w := list.filter (cpuIsSet avail)
    some { workerCpu := w, malformed := malformed, noCpus := w.isEmpty }

/-- `myth_get_worker_cpu(rank)`: `-1` = do not bind -/
def workerCpu (a : Avail) (rank : Nat) : Int :=
  if a.workerCpu.length = 0 then -1 else a.workerCpu.getD (rank % a.workerCpu.length) (-1)

end MythVerif.CpuList
