import MythVerif.Proofs.PiDagPruneLay
import MythVerif.Properties.C18
/-!
# C19 — DAG files are well formed and survive a dump / read / convert round trip

Model: `MythVerif.PiDag` (`Model/PiDag.lean`): the position independent DAG (`T`, `E`, `S`),
`flatten` = `dr_make_pi_dag`, `shrink` = `dr_copy_pi_dag` (the `dag2any --shrink` path),
`wellFormed` = an executable checker of everything C19 asks of a dumped / converted DAG (offsets
inside the DAG, children contiguous, edge endpoints leaves of the DAG, edges grouped by source with
`edges_begin/end` a partition of `E`, `m` = the counted number, string indices inside a
duplicate-free table, and an elimination order certifying that every leaf is reachable),
`replayWith pick` = `dr_pi_dag_chronological_traverse` with an arbitrary dequeue order.

What is proved here for ALL inputs: the checker is sound for the replay postcondition
(`C19_wf_replay`: any DAG — of any size, produced by whatever recording / contraction /
conversion — that `wellFormed` accepts is traversed completely, each leaf exactly once, whatever
the event order), the string table discipline (`C19_intern`), and that every `flatten` output
(= the dump of a recorded DAG: any well-nested execution, any contraction options) is accepted by
the checker (`C19_flatten_wf`: all seven conjuncts — offsets, edgeEnds, grouped, counted, strings,
degrees, certificate), hence is traversed completely by the replay (`C19_flatten_replay`).
For the shrinking copy (`dag2any`): a converted dump — `shrink` applied once (`C19_prune_wf_dump`)
or twice (`C19_prune_wf_dump_twice`), under any conversion options, to the dump of a recorded DAG —
is accepted by the checker, and after one conversion traversed completely (`C19_prune_replay`);
`C19_prune_wf_laid` is the step by which any further conversion is accepted too.
For an arbitrary `G`, `wellFormed G → wellFormed (shrink o G)` is FALSE and refuted here
(`C19_prune_wf_refuted`): the checker does not compare `E` with what `dr_pi_dag_enum_edges` emits
for `T`, and the copy rebuilds `E` from `T`.  File I/O is not modelled; the model's arrays are
compared field by field with the implementation's per run (check/props/c19.py).
-/
namespace MythVerif.PiDag
open MythVerif.DagRec

/-- **soundness of the checker for the chronological replay**: if `wellFormed G`, then for EVERY
    order in which pending events are dequeued (`pick`; the C code's heap is one such order) the
    traversal terminates with an empty event queue, has made ready / started / last-started /
    ended every leaf exactly once and touched no inner node, and ends with nothing running and
    nothing ready. -/
theorem C19_wf_replay (G : PiDag) (h : wellFormed G = true) (pick : List Event → Nat) :
    (replayWith pick G (4 * G.T.size + 4) (initReplay G)).queue = [] ∧
    (∀ i, i < G.T.size →
      (replayWith pick G (4 * G.T.size + 4) (initReplay G)).readied[i]! = (if isLeaf G.T[i]! then 1 else 0) ∧
      (replayWith pick G (4 * G.T.size + 4) (initReplay G)).started[i]! = (if isLeaf G.T[i]! then 1 else 0) ∧
      (replayWith pick G (4 * G.T.size + 4) (initReplay G)).lastStarted[i]! = (if isLeaf G.T[i]! then 1 else 0) ∧
      (replayWith pick G (4 * G.T.size + 4) (initReplay G)).ended[i]! = (if isLeaf G.T[i]! then 1 else 0)) ∧
    (replayWith pick G (4 * G.T.size + 4) (initReplay G)).nRunning = 0 ∧
    (replayWith pick G (4 * G.T.size + 4) (initReplay G)).nReady = 0 := by
  have hc := cert_of_wf G h
  obtain ⟨hq, hi⟩ := replay_terminates pick G _ hc (4 * G.T.size + 4) _ (inv_init G _ hc) (by omega)
  exact final_of_inv G _ hc _ hq hi

/-- in particular for the time-ordered traversal of the C code (`replay` dequeues a minimal time stamp) -/
theorem C19_wf_replay_chronological (G : PiDag) (h : wellFormed G = true) :
    (replay G).queue = [] ∧ (replay G).nRunning = 0 ∧ (replay G).nReady = 0 ∧
    ∀ i, i < G.T.size → (replay G).started[i]! = (if isLeaf G.T[i]! then 1 else 0) ∧
      (replay G).ended[i]! = (if isLeaf G.T[i]! then 1 else 0) := by
  obtain ⟨h1, h2, h3, h4⟩ := C19_wf_replay G h pickMin
  exact ⟨h1, h3, h4, fun i hi => ⟨(h2 i hi).2.1, (h2 i hi).2.2.2⟩⟩

/-- **string table**: interning any sequence of file names (any number of distinct names, any
    repetitions) yields a duplicate-free table; every index handed out is inside the table and
    names the string it was handed out for; hence two positions get the same index iff they
    carry the same name. -/
theorem C19_intern (names : List Nat) :
    (internAll [] names).1.Nodup ∧
    (internAll [] names).2.length = names.length ∧
    (∀ k (hk : k < names.length), ((internAll [] names).2)[k]! < (internAll [] names).1.length ∧
      (internAll [] names).1[((internAll [] names).2)[k]!]? = some names[k]) ∧
    (∀ j k (hj : j < names.length) (hk : k < names.length),
      ((internAll [] names).2)[j]! = ((internAll [] names).2)[k]! ↔ names[j] = names[k]) := by
  obtain ⟨h1, _, h3, h4⟩ := internAll_spec names [] List.nodup_nil
  have hlt : ∀ k (hk : k < names.length), ((internAll [] names).2)[k]! < (internAll [] names).1.length := by
    intro k hk
    have := h4 k hk
    exact (List.getElem?_eq_some_iff.mp this).1
  refine ⟨h1, h3, fun k hk => ⟨hlt k hk, h4 k hk⟩, ?_⟩
  intro j k hj hk
  constructor
  · intro e
    have a := h4 j hj; have b := h4 k hk
    rw [e, b] at a
    exact (Option.some.inj a).symm
  · intro e
    have a := h4 j hj; have b := h4 k hk
    rw [e, ← b] at a
    exact (List.getElem?_inj (hlt j hj) h1).mp a

/-- **every dump of a recorded DAG is well formed**: for every well-nested execution `t`, both
    variants of the recorder and every setting of the contraction options (collapse_max,
    uncollapse_min, collapse_max_count, node_count_target / prune_threshold), the position
    independent DAG `dr_make_pi_dag` builds from the in-memory DAG passes all seven checks of the
    well-formedness checker: offsets, edgeEnds, grouped, counted, strings, degrees, certificate. -/
theorem C19_flatten_wf (v : Variant) (o : Opts) (sc nw : Nat) (t : Tree) (h : wnTask t = true) :
    wellFormed (flatten sc nw (record v o sc t)) = true :=
  flatten_wellFormed sc nw _ (record_gram v o sc t h)

/-- the same for every in-memory DAG of the shape the recorder produces (`gTask`: the grammar
    `task ::= (section | other)* end`, `section ::= (section | create task | other)* wait` with any
    subset of the sections / tasks collapsed; `record_gram` shows every `record` output has it) -/
theorem C19_flatten_wf_shape (sc nw : Nat) (d : DNode) (h : gTask d = true) :
    wellFormed (flatten sc nw d) = true :=
  flatten_wellFormed sc nw d h

/-- hence the chronological replay of every dumped DAG (whatever the dequeue order) terminates with
    an empty queue, nothing running and nothing ready, having started and ended every leaf once -/
theorem C19_flatten_replay (v : Variant) (o : Opts) (sc nw : Nat) (t : Tree) (h : wnTask t = true)
    (pick : List Event → Nat) :
    let G := flatten sc nw (record v o sc t)
    (replayWith pick G (4 * G.T.size + 4) (initReplay G)).queue = [] ∧
    (replayWith pick G (4 * G.T.size + 4) (initReplay G)).nRunning = 0 ∧
    (replayWith pick G (4 * G.T.size + 4) (initReplay G)).nReady = 0 ∧
    ∀ i, i < G.T.size →
      (replayWith pick G (4 * G.T.size + 4) (initReplay G)).started[i]! = (if isLeaf G.T[i]! then 1 else 0) ∧
      (replayWith pick G (4 * G.T.size + 4) (initReplay G)).ended[i]! = (if isLeaf G.T[i]! then 1 else 0) := by
  intro G
  obtain ⟨h1, h2, h3, h4⟩ := C19_wf_replay G (C19_flatten_wf v o sc nw t h) pick
  exact ⟨h1, h3, h4, fun i hi => ⟨(h2 i hi).2.1, (h2 i hi).2.2.2⟩⟩

/-- a corollary of the proof of `C19_flatten_wf`, conjunct by conjunct.  For every in-memory DAG whatsoever: the
    string-table conjunct of `wellFormed` (every `file_idx` inside a duplicate-free table),
    `T` has as many slots as there are materialised nodes (`dr_pi_dag_enum_nodes`), and slot 0 is the
    root with its `info` (work, critical path, counts, node counters) unchanged by the copy.
    For every in-memory DAG of the shape the recorder produces (`gTask`: the grammar
    `task ::= (section | other)* end`, `section ::= (section | create task | other)* wait` with any
    subset of the sections / tasks collapsed — see `record_gram`) the other six conjuncts:
    * `offsets`: child / subgraph offsets inside the DAG, children blocks contiguous and disjoint,
      every slot but the root the child of exactly one node;
    * `edgeEnds`: both ends of every edge are leaves inside the DAG;
    * `grouped`: `E` sorted by source, `edges_begin` / `edges_end` a partition of `E` by source;
    * `counted`: `m` = `dr_pi_dag_count_edges_uncollapsed`;
    * `degrees`: the in-degrees counted through the per-node edge ranges are those over all of `E`;
    * `certificate`: the in-degree driven elimination from the first leaf is a topological order
      covering every leaf, every leaf but the first has a predecessor and no inner node has one. -/
theorem C19_flatten_wf_partial (sc nw : Nat) (d : DNode) :
    (wfReport (flatten sc nw d)).strings = true ∧
    (flatten sc nw d).T.size = d.count ∧
    (flatten sc nw d).T[0]!.info.c.t1 = d.info.c.t1 ∧ (flatten sc nw d).T[0]!.info.c.tinf = d.info.c.tinf ∧
    (flatten sc nw d).T[0]!.info.c.nc = d.info.c.nc ∧ (flatten sc nw d).T[0]!.info.c.ec = d.info.c.ec ∧
    (flatten sc nw d).T[0]!.info.cur = d.info.cur ∧ (flatten sc nw d).T[0]!.info.min = d.info.min ∧
    (gTask d = true →
      (wfReport (flatten sc nw d)).offsets = true ∧ (wfReport (flatten sc nw d)).edgeEnds = true ∧
      (wfReport (flatten sc nw d)).grouped = true ∧ (wfReport (flatten sc nw d)).counted = true ∧
      (wfReport (flatten sc nw d)).degrees = true ∧ (wfReport (flatten sc nw d)).certificate = true) := by
  obtain ⟨h1, h2⟩ := flatten_spec sc nw d
  rw [h2]
  refine ⟨flatten_wfStrings sc nw d, h1, rfl, rfl, rfl, rfl, rfl, rfl, fun h => ?_⟩
  have hwf := flatten_wellFormed sc nw d h
  simp only [wellFormed, Bool.and_eq_true] at hwf
  obtain ⟨⟨⟨⟨⟨⟨g1, g2⟩, g3⟩, g4⟩, _⟩, g5⟩, g6⟩ := hwf
  exact ⟨g1, g2, g3, g4, g5, g6⟩

/-- `C19_flatten_wf` conjunct by conjunct: for every well-nested execution, every variant of the
    recorder and every setting of the contraction options, the dump of the recorded DAG passes the
    `offsets`, `edgeEnds`, `grouped`, `counted`, `strings`, `degrees` and `certificate` checks -/
theorem C19_flatten_wf_partial_record (v : Variant) (o : Opts) (sc nw : Nat) (t : Tree) (h : wnTask t = true) :
    (wfReport (flatten sc nw (record v o sc t))).offsets = true ∧
    (wfReport (flatten sc nw (record v o sc t))).edgeEnds = true ∧
    (wfReport (flatten sc nw (record v o sc t))).grouped = true ∧
    (wfReport (flatten sc nw (record v o sc t))).counted = true ∧
    (wfReport (flatten sc nw (record v o sc t))).strings = true ∧
    (wfReport (flatten sc nw (record v o sc t))).degrees = true ∧
    (wfReport (flatten sc nw (record v o sc t))).certificate = true := by
  obtain ⟨hs, _, _, _, _, _, _, _, hg⟩ := C19_flatten_wf_partial sc nw (record v o sc t)
  obtain ⟨g1, g2, g3, g4, g5, g6⟩ := hg (record_gram v o sc t h)
  exact ⟨g1, g2, g3, g4, hs, g5, g6⟩

/-- for EVERY DAG (however produced), the `degrees` check is implied by the `grouped` check -/
theorem C19_grouped_degrees (G : PiDag) (h : (wfReport G).grouped = true) : (wfReport G).degrees = true :=
  wfDegrees_of_grouped G h

/-- hence the root of every dumped DAG carries exactly the totals of the uncontracted interval
    sequence, whatever the contraction options were (C18 carried over to the file) -/
theorem C19_dump_root_totals (o : Opts) (sc nw : Nat) (t : Tree) (h : wnTask t = true) :
    (flatten sc nw (record .fixed o sc t)).T[0]!.info.c.t1 = flatWork (leavesTree t) ∧
    (flatten sc nw (record .fixed o sc t)).T[0]!.info.c.nc = flatNC (leavesTree t) ∧
    (flatten sc nw (record .fixed o sc t)).T[0]!.info.c.ec = flatEC (leavesTree t) ∧
    (flatten sc nw (record .fixed o sc t)).T[0]!.info.c.tinf = maxFinish (leafInfosTree .fixed t (rootCursor sc)) ∧
    (flatten sc nw (record .fixed o sc t)).T.size = (record .fixed o sc t).info.cur := by
  obtain ⟨_, h0, h1, h2, h3, h4, _, _⟩ := C19_flatten_wf_partial sc nw (record .fixed o sc t)
  rw [h1, h2, h3, h4, h0]
  exact ⟨C18_work_is_sum .fixed o sc t h, (C18_counts_exact o sc t h).1, (C18_counts_exact o sc t h).2,
    C18_span_eq_est_finish .fixed o sc t h, (C18_node_count_bookkeeping .fixed o sc t h).symm⟩

/-- **shrinking a DAG during conversion preserves its totals**: for every well-formed DAG and all
    conversion-time contraction options the root slot of the converted DAG carries the same
    work, critical path, interval and edge counts, est, span and node counters as the original -/
theorem C19_prune_totals (o : ShrinkOpts) (G : PiDag) (h : wellFormed G = true) :
    SameTotals (shrink o G).T[0]! G.T[0]! :=
  shrink_root o G (treeLike_of_wf G h)

/-- a DAG whose node array is the layout `dr_pi_dag_enum_nodes` gives some tree of the recorder's shape
    (`E`, `S` and the per-node `info`s are arbitrary) -/
def Laid (G : PiDag) : Prop := ∃ d, LayN G.T d 0 1 ∧ G.T.size = 1 + descT d ∧ gTask d = true

/-- every dump of a recorded DAG is laid out -/
theorem C19_flatten_laid (v : Variant) (o : Opts) (sc nw : Nat) (t : Tree) (h : wnTask t = true) :
    Laid (flatten sc nw (record v o sc t)) :=
  ⟨_, (flatten_lay sc nw _).1, (flatten_lay sc nw _).2, record_gram v o sc t h⟩

/-- **the shrinking copy of a laid-out DAG is well formed and laid out again** (so conversions can
    be iterated), for all conversion-time contraction options; only the node array of the input
    matters, its edges and strings are rebuilt -/
theorem C19_prune_wf_laid (o : ShrinkOpts) (G : PiDag) (h : Laid G) :
    wellFormed (shrink o G) = true ∧ Laid (shrink o G) := by
  obtain ⟨d, h1, h2, h3⟩ := h
  exact shrink_wellFormed_of_lay o G d h1 h2 h3

/-- **every converted dump is well formed**: for every well-nested execution, every variant of the
    recorder, all record-time contraction options `o` and all conversion-time options `so`, the
    `dag2any` shrinking copy (`dr_pi_dag_copy_and_prune_nodes`, then edges / sort / pointers /
    strings again) of the dumped DAG passes all seven checks -/
theorem C19_prune_wf_dump (so : ShrinkOpts) (v : Variant) (o : Opts) (sc nw : Nat) (t : Tree) (h : wnTask t = true) :
    wellFormed (shrink so (flatten sc nw (record v o sc t))) = true :=
  (C19_prune_wf_laid so _ (C19_flatten_laid v o sc nw t h)).1

/-- … also after a second conversion -/
theorem C19_prune_wf_dump_twice (so so' : ShrinkOpts) (v : Variant) (o : Opts) (sc nw : Nat) (t : Tree)
    (h : wnTask t = true) :
    wellFormed (shrink so' (shrink so (flatten sc nw (record v o sc t)))) = true :=
  (C19_prune_wf_laid so' _ (C19_prune_wf_laid so _ (C19_flatten_laid v o sc nw t h)).2).1

/-- **replay of a converted dump**: whatever the dequeue order, the chronological traversal of the
    converted DAG terminates with an empty queue, nothing running and nothing ready, having
    started and ended every leaf exactly once and no inner node -/
theorem C19_prune_replay (so : ShrinkOpts) (v : Variant) (o : Opts) (sc nw : Nat) (t : Tree) (h : wnTask t = true)
    (pick : List Event → Nat) :
    let G := shrink so (flatten sc nw (record v o sc t))
    (replayWith pick G (4 * G.T.size + 4) (initReplay G)).queue = [] ∧
    (replayWith pick G (4 * G.T.size + 4) (initReplay G)).nRunning = 0 ∧
    (replayWith pick G (4 * G.T.size + 4) (initReplay G)).nReady = 0 ∧
    ∀ i, i < G.T.size →
      (replayWith pick G (4 * G.T.size + 4) (initReplay G)).started[i]! = (if isLeaf G.T[i]! then 1 else 0) ∧
      (replayWith pick G (4 * G.T.size + 4) (initReplay G)).ended[i]! = (if isLeaf G.T[i]! then 1 else 0) := by
  intro G
  obtain ⟨h1, h2, h3, h4⟩ := C19_wf_replay G (C19_prune_wf_dump so v o sc nw t h) pick
  exact ⟨h1, h3, h4, fun i hi => ⟨(h2 i hi).2.1, (h2 i hi).2.2.2⟩⟩

/-
For an arbitrary `G : PiDag`, `wellFormed G = true → wellFormed (shrink o G) = true` is FALSE
(`C19_prune_wf_refuted` below: `badG`, a task whose only child is a section that creates a
task, with a hand-made edge array, passes the checker; its copy does not).  What holds instead is
`C19_prune_wf_laid` (hypothesis: the node array is a layout of a tree of the recorder's shape, which
every `flatten` and every `shrink` output satisfies) and its instance `C19_prune_wf_dump`.
-/
/-- what does hold under the bare hypothesis `wellFormed G` (besides `C19_prune_totals`): the
    converted DAG has a root slot of the same kind -/
theorem C19_prune_wf_partial (o : ShrinkOpts) (G : PiDag) (h : wellFormed G = true) :
    (shrink o G).T[0]!.info.c.kind = G.T[0]!.info.c.kind :=
  (C19_prune_totals o G h).2.2.2.2.2.1

/-! ### non-vacuity -/

def mkN (k : NKind) (eb ee a b : Nat) : PNode :=
  { info := { c := { kind := k } }, eb := eb, ee := ee, a := a, b := b }

/-- the dump of the execution `T O E` (a task made of an `other` and an `end` interval): three
    slots, one `other_cont` edge -/
def tiny : PiDag :=
  { T := #[mkN .task 0 0 1 3, mkN .other 0 1 0 0, mkN .endTask 1 1 0 0],
    E := #[⟨.otherCont, 1, 2⟩], S := [0], nw := 1 }

/-- a root task whose only child is a section `[create → (collapsed) task, wait]`; the edge array
    is not what `dr_pi_dag_enum_edges` would emit for these nodes (that would be the single edge
    `2 → 3`, leaving slot 4 unreachable), yet the checker accepts it -/
def badG : PiDag :=
  { T := #[mkN .task 0 0 1 2, mkN .section 0 0 1 3, mkN .createTask 0 2 2 0, mkN .waitTasks 2 2 0 0, mkN .task 2 3 0 0],
    E := #[⟨.createCont, 2, 3⟩, ⟨.create, 2, 4⟩, ⟨.end_, 4, 3⟩], S := [0], nw := 1 }

/-- **`wellFormed` alone is not preserved by `shrink`**: `badG` is accepted, its
    (non-contracting) copy is rejected — the rebuilt edge array has 1 edge where
    `dr_pi_dag_count_edges_uncollapsed` counts 3, and the child task is unreachable -/
theorem C19_prune_wf_refuted :
    ¬ ∀ (o : ShrinkOpts) (G : PiDag), wellFormed G = true → wellFormed (shrink o G) = true := by
  intro h
  have h1 : wellFormed badG = true := by decide +kernel
  have h2 : wellFormed (shrink {} badG) = false := by decide +kernel
  rw [h {} badG h1] at h2
  cases h2

example : (wfReport (shrink {} badG)).counted = false ∧ (wfReport (shrink {} badG)).certificate = false := by
  decide +kernel

/-- the hypothesis of `C19_wf_replay` is satisfiable … -/
example : wellFormed tiny = true := by decide +kernel
/-- … and not trivially true: without its edge the `end` interval is unreachable and the checker
    rejects the DAG (edge count and certificate fail) -/
example : wellFormed { tiny with E := #[], T := #[mkN .task 0 0 1 3, mkN .other 0 0 0 0, mkN .endTask 0 0 0 0] } = false := by
  decide +kernel
/-- a child offset pointing outside the DAG is rejected -/
example : wellFormed { tiny with T := #[mkN .task 0 0 1 4, mkN .other 0 1 0 0, mkN .endTask 1 1 0 0] } = false := by
  decide +kernel
/-- an execution with a child task and nested sections; `collapse_max = 3` collapses the inner
    section (single worker, span 2), so the recorded DAG keeps 9 of the 11 nodes -/
def exTree : Tree :=
  let r (a b w : Nat) : Raw := { startT := a, endT := b, worker := w }
  .group .task (.cons (.group .section (.cons (.create (r 0 1 0) (.group .task (.cons (.ival .endTask (r 1 5 1)) .nil)))
      (.cons (.group .section (.cons (.ival .other (r 1 2 0)) (.cons (.ival .waitTasks (r 2 3 0)) .nil)))
        (.cons (.ival .waitTasks (r 3 6 0)) .nil))))
    (.cons (.ival .other (r 6 7 0)) (.cons (.ival .endTask (r 7 8 0)) .nil)))

/-- the hypotheses of `C19_flatten_wf` / `C19_flatten_replay` / `C19_flatten_wf_partial_record`
    (`wnTask`) and of `C19_flatten_wf_shape` / `C19_flatten_wf_partial` (`gTask`) are satisfiable by a
    DAG that really is contracted -/
example : wnTask exTree = true := by decide
example : gTask (record .fixed { collapseMax := 3 } 0 exTree) = true := by decide
example : (record .fixed { collapseMax := 3 } 0 exTree).count = 9 ∧ (record .fixed {} 0 exTree).count = 11 := by decide
/-- `C19_flatten_wf` applied to this contracted DAG -/
example : wellFormed (flatten 0 2 (record .fixed { collapseMax := 3 } 0 exTree)) = true :=
  C19_flatten_wf .fixed { collapseMax := 3 } 0 2 exTree (by decide)
/-- the shape hypothesis of `C19_flatten_wf_shape` cannot be dropped: an in-memory "DAG" that is a lone
    create node (no child task, not a task itself) is dumped to something the checker rejects -/
example : gTask (.ival { c := { kind := .createTask } }) = false ∧
    wellFormed (flatten 0 1 (.ival { c := { kind := .createTask } })) = false := by decide +kernel
/-- `C19_prune_wf_dump` / `C19_prune_replay` / `C19_prune_wf_laid` applied: the contracted dump of
    `exTree`, converted with `uncollapse_min = 7` (which really shrinks it: 9 → 4 nodes) -/
example : wellFormed (shrink { uncollapseMin := 7 } (flatten 0 2 (record .fixed { collapseMax := 3 } 0 exTree))) = true :=
  C19_prune_wf_dump { uncollapseMin := 7 } .fixed { collapseMax := 3 } 0 2 exTree (by decide)
example : (shrink { uncollapseMin := 7 } (flatten 0 2 (record .fixed { collapseMax := 3 } 0 exTree))).T.size = 4 := by
  decide +kernel
example : Laid (flatten 0 2 (record .fixed { collapseMax := 3 } 0 exTree)) :=
  C19_flatten_laid .fixed { collapseMax := 3 } 0 2 exTree (by decide)
/-- `C19_grouped_degrees`: its hypothesis holds of `tiny` -/
example : (wfReport tiny).grouped = true := by decide +kernel
/-- interning `a b a c b` : three distinct names, indices 0 1 0 2 1 -/
example : internAll [] [7, 9, 7, 4, 9] = ([7, 9, 4], [0, 1, 0, 2, 1]) := by decide

end MythVerif.PiDag
