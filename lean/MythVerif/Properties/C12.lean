import MythVerif.Proofs.Life
import MythVerif.Proofs.Ledger
import MythVerif.Proofs.SizeClass
/-!
# C12 — stacks and thread records are never reused or released while still in use

Three models: `MythVerif.Life` (when the finisher / reapers release the stack and the record),
`MythVerif.Ledger` (per-worker free lists of blocks: every block is in exactly one place),
`MythVerif.SizeClass` (size-class rounding and the stack block layout).
Memory *contents* of stacks are not modelled (canaries in the harness are an oracle).
-/
namespace MythVerif.Life
open MythVerif

/-- **the stack is released only after the final switch-away**: the release happens in the
    callback that runs after the finished thread has left its stack (`fRead → fSwitched`), hence
    never while the start function is running or the thread is still on its stack; at most once -/
theorem C12_stack_released_after_switch (arg : Val) (d : Bool) (s : St) (h : Reach arg d s) :
    s.stackFrees ≤ 1 ∧ (s.stackFrees = 1 ↔ tStackGone s.tpc = true) ∧
    (s.stackFrees = 1 → s.tpc ≠ .created ∧ s.tpc ≠ .run ∧ s.tpc ≠ .fBegin ∧ ∀ w, s.tpc ≠ .fRead w) := by
  have hi := reach_inv arg d s h
  rw [hi.stk]
  refine ⟨by split <;> omega, by split <;> simp_all, ?_⟩
  intro h1
  have : tStackGone s.tpc = true := by split at h1 <;> simp_all
  cases hp : s.tpc <;> simp [hp, tStackGone] at this ⊢

/-- the step that releases the stack is taken by the switch callback, with the record locked by
    the finisher -/
theorem C12_stack_free_under_lock (arg : Val) (d : Bool) (s s' : St) (h : Reach arg d s)
    (hs : step s .tStackFree = some s') : s.tlock = true ∧ s.stackFrees = 0 ∧ s'.stackFrees = 1 := by
  have hi := reach_inv arg d s h
  simp only [step] at hs
  split at hs
  · rename_i w hp
    simp at hs; subst hs
    have h0 : s.stackFrees = 0 := by rw [hi.stk]; simp [hp, tStackGone]
    exact ⟨hi.tl.mpr (by simp [hp, tHoldsLock]), h0, by simp [h0]⟩
  · simp at hs

/-- **the record stays intact until the thread has been reaped**: it is released at most once,
    only after the thread has completely finished (`fDone`), and — unless it was
    detached — only by the reaper, after that reaper has read the exit value -/
theorem C12_record_intact_until_reap (arg : Val) (d : Bool) (s : St) (h : Reach arg d s)
    (hf : s.descFrees ≥ 1) :
    s.descFrees = 1 ∧ s.tpc = .fDone ∧
    (s.det = true ∨ ∃ j, s.reaper = some j ∧ ((∃ v, s.pc j = .done v ∧ s.retv = some v) ∨ s.pc j = .ddone)) := by
  have hi := reach_inv arg d s h
  have hdf := hi.dfc
  by_cases h1 : s.tpc = .fDone ∧ s.det = true
  · by_cases h2 : s.rfreed = true
    · have := (hi.finD (hi.rfF h2)).2; simp [h1.2] at this
    · simp [h1, h2] at hdf; exact ⟨hdf, h1.1, Or.inl h1.2⟩
  · by_cases h2 : s.rfreed = true
    · simp [h1, h2] at hdf
      have hfin := hi.rfF h2
      refine ⟨hdf, (hi.finD hfin).1, Or.inr ?_⟩
      cases hr : s.reaper with
      | none => exact absurd hr (hi.rf0 h2)
      | some j =>
        refine ⟨j, rfl, ?_⟩
        rcases (hi.rf1 j hr).mp h2 with ⟨v, e⟩ | e
        · exact Or.inl ⟨v, e, hi.jfv j v (Or.inr e)⟩
        · exact Or.inr e
    · simp [h1, h2] at hdf; omega

/-- a joiner's record release comes after it has read the result (program order `jReap` then
    `descFree`), and the value it read is the thread's exit value -/
theorem C12_reap_reads_before_release (arg : Val) (d : Bool) (s s' : St) (h : Reach arg d s) (j : Tid)
    (hs : step s (.descFree j) = some s') :
    (∃ v, s.pc j = .jFree v ∧ s.retv = some v) ∨ s.pc j = .dFree := by
  have hi := reach_inv arg d s h
  simp only [step] at hs
  split at hs
  · rename_i v hp; exact Or.inl ⟨v, hp, hi.jfv j v (Or.inl hp)⟩
  · rename_i hp; exact Or.inr hp
  · simp at hs

end MythVerif.Life

namespace MythVerif.Ledger

/-- **no block is handed out twice / no overlap**: for every history of get / release operations
    by any number of workers (releases only of blocks in use, which `Life` guarantees), all
    blocks in use are pairwise distinct and none of them is on any free list; a block is on at
    most one free list.  Fresh blocks come from the OS model (disjoint regions: trusted base). -/
theorem C12_no_overlap (ops : List Op) (s : St) (h : runOps init ops = some s) :
    s.owned.Nodup ∧ (∀ w a, a ∈ s.fl w → a ∉ s.owned) ∧ (∀ w, (s.fl w).Nodup) ∧
    (∀ w1 w2 a, a ∈ s.fl w1 → a ∈ s.fl w2 → w1 = w2) := by
  have hi := runOps_invN ops init s invN_init h
  exact ⟨hi.ond, hi.dis, hi.fnd, hi.one⟩

/-- a `get` never returns a block that is currently in use -/
theorem C12_get_returns_unused (ops : List Op) (s s' : St) (w : Worker) (a : Addr)
    (h : runOps init ops = some s) (hs : step s (.get w) = some (s', some a)) : a ∉ s.owned := by
  have hi := runOps_invN ops init s invN_init h
  simp only [step] at hs
  split at hs
  · rename_i b rest hfl
    simp at hs; obtain ⟨_, e⟩ := hs; subst e
    exact hi.dis w b (by simp [hfl])
  · simp at hs; obtain ⟨_, e⟩ := hs; subst e
    exact fun hm => Nat.lt_irrefl _ (hi.lto _ hm)

/-- releasing a block that is not in use is rejected by the ledger -/
theorem C12_release_at_most_once (s : St) (w : Worker) (a : Addr) (h : a ∉ s.owned) :
    step s (.free w a) = none := by
  simp [step, h]

end MythVerif.Ledger

namespace MythVerif.SizeClass

theorem sizeToIndex_spec (s : Nat) (h : 2 ≤ s) :
    s ≤ rsize (sizeToIndex s) ∧ rsize (sizeToIndex s) < 2 * s := by
  unfold sizeToIndex rsize
  have h1 : s - 1 ≠ 0 := by omega
  have a := Nat.lt_log2_self (n := s - 1)
  have b := Nat.log2_self_le h1
  rw [Nat.pow_succ] at *
  omega

/-- **size classes**: for every request `8 ≤ s ≤ 2^30` the block of class `sizeToIndex s` is
    large enough (and less than twice as large) and the class index is inside the free-list table -/
theorem C12_size_class (s : Nat) (h8 : 8 ≤ s) (hmax : s ≤ 2 ^ 30) :
    s ≤ rsize (sizeToIndex s) ∧ rsize (sizeToIndex s) < 2 * s ∧ 3 ≤ sizeToIndex s ∧
    sizeToIndex s < freeListNum := by
  have hs := sizeToIndex_spec s (by omega)
  -- the class is the least `m` with `s ≤ 2 ^ m`: above 2 as `2 ^ 2 < s`, at most 30 as `s ≤ 2 ^ 30`
  have lo : ¬ sizeToIndex s ≤ 2 := by rw [sizeToIndex_le_iff s 2 (by omega)]; omega
  have hi := (sizeToIndex_le_iff s 30 (by omega)).mpr hmax
  have e : Gen.freeListNum = 31 := by decide
  exact ⟨hs.1, hs.2, by omega, show _ < Gen.freeListNum by omega⟩

theorem roundPage_spec (s : Nat) : s ≤ roundPage s ∧ roundPage s % 4096 = 0 ∧ roundPage s < s + 4096 := by
  unfold roundPage; omega

/-- **stack layout**: for a page-aligned block and any requested size `≥ 1`, the stack pointer
    handed to the thread is 16-byte aligned, it and the size word lie inside the block of the
    rounded size, and release recovers exactly the block start from the pointer and the size word -/
theorem C12_stack_top_aligned (base size : Nat) (hb : base % 4096 = 0) (hs : 1 ≤ size) :
    stackTop base size % 16 = 0 ∧ base ≤ stackTop base size ∧
    sizeWord base size + 8 = base + roundPage size ∧
    blockStart (stackTop base size) (roundPage size) = base := by
  have hr := roundPage_spec size
  simp only [sizeWord, blockStart, stackTop]
  have : 4096 ≤ roundPage size := by
    have := hr.2.1; have := hr.1
    omega
  omega

/-- the model's class function agrees with the macro on the translator's probes -/
theorem C12_size_class_matches_source :
    sizeToIndex 8 = Gen.sizeToIndex8 ∧ sizeToIndex 4096 = Gen.sizeToIndex4096 ∧
    sizeToIndex 4097 = Gen.sizeToIndex4097 ∧ Gen.pageSize = 4096 := by decide

end MythVerif.SizeClass
