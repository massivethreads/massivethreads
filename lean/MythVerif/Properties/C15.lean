import MythVerif.Proofs.Env
import MythVerif.Proofs.CpuList
import MythVerif.Proofs.InitOnce
import MythVerif.Proofs.WorkerBarrier
/-!
# C15 — initialisation, worker count, finalisation and configuration parsing

Models: `MythVerif.Env` (glibc `atoi`, the `myth_globalattr_default_*` readers with their C
types), `MythVerif.CpuList` (`myth_parse_cpu_list` and helpers, `myth_get_available_cpus`),
`MythVerif.InitOnce` (the init-once protocol as a transition system over unboundedly many
callers, the rank arithmetic of the steal-victim choice), `MythVerif.WBarrier` (the workers' start/stop
barrier of `src/myth_internal_barrier.c`, `C15_worker_barrier_*` at the end of the file).  The theorems are about the current
source; the pinned snapshot's readers (`stacksizePinned`, the parser with `chk = true`) are kept
with their refutations (`C15_pinned_*`).
Quantification: every string (`List Char`, so every byte string), every capacity, every
interleaving of any number of callers, every init/fini history.
-/
namespace MythVerif.C15
open MythVerif MythVerif.Env MythVerif.CpuList MythVerif.InitOnce

/-! ## configuration strings -/

/-- whatever `MYTH_DEF_STKSIZE`, `MYTH_NUM_WORKERS` and the superseded `MYTH_WORKER_NUM` contain
    (or unset), the default stack size and the worker count used are positive (the CPU count is
    positive) -/
theorem C15_env_positive (stk nw old : Option CStr) (ncpu : Int) (hc : 0 < ncpu) :
    0 < stacksize stk ∧ 0 < (numWorkers nw old ncpu).1 :=
  ⟨stacksize_pos stk, numWorkers_pos nw old ncpu hc⟩

/-- a value that is empty, non-numeric (no digit after white space and an optional sign) or not
    positive is ignored: the default stack size resp. the CPU count is used -/
theorem C15_env_malformed_ignored (s : CStr) (old : Option CStr) (ncpu : Int)
    (h : s = [] ∨ NonNumeric s ∨ atoi s ≤ 0) :
    stacksize (some s) = defStack ∧ (numWorkers (some s) old ncpu).1 = ncpu ∧
    stacksize none = defStack ∧ (numWorkers none none ncpu).1 = ncpu := by
  have h0 : atoi s ≤ 0 := by
    rcases h with h | h | h
    · subst h; rw [atoi_nonNumeric [] nonNumeric_nil]; exact Int.le_refl 0
    · rw [atoi_nonNumeric s h]; exact Int.le_refl 0
    · exact h
  refine ⟨stacksize_default s h0, ?_, stacksize_unset, numWorkers_unset ncpu⟩
  rw [numWorkers_set]
  have : ¬ atoi s > 0 := by omega
  simp [this]

/-- the worker count is the requested one if it is positive, else the CPU count -/
theorem C15_workers_requested_or_cpus (s : CStr) (old : Option CStr) (ncpu : Int) :
    (numWorkers (some s) old ncpu).1 = if atoi s > 0 then atoi s else ncpu :=
  numWorkers_set s old ncpu

/-- a plain positive decimal number (below 2^31), whatever non-digit follows it, is taken as it
    is — as worker count and as stack size -/
theorem C15_env_number_used (ds rest : CStr) (old : Option CStr) (ncpu : Int) (hne : ds ≠ [])
    (hd : AllDigits ds) (hr : NoDigitHead rest) (h0 : 0 < digitsVal ds 0) (hv : digitsVal ds 0 < 2 ^ 31) :
    (numWorkers (some (ds ++ rest)) old ncpu).1 = digitsVal ds 0 ∧
    stacksize (some (ds ++ rest)) = digitsVal ds 0 := by
  have ha := atoi_digits ds rest hne hd hr hv
  have hp : atoi (ds ++ rest) > 0 := by rw [ha]; omega
  constructor
  · rw [numWorkers_set, if_pos hp, ha]
  · have := stacksize_value (ds ++ rest) hp; rw [ha] at this; omega

/-- `MYTH_BIND_WORKERS`: unset means the compiled-in default (bind), a non-numeric value means
    "do not bind"; no value can do anything else than switch binding on or off -/
theorem C15_bind_total (s : CStr) :
    bindingOn none = true ∧ (NonNumeric s → bindingOn (some s) = false) ∧
    (bindingOn (some s) = true ↔ 0 < atoi s) := by
  refine ⟨by decide, ?_, ?_⟩
  · intro h; simp [bindingOn, bindWorkers, atoi_nonNumeric s h]
  · simp [bindingOn, bindWorkers]

/-- **the pinned snapshot violated C15** (defect D5): `MYTH_DEF_STKSIZE=-5` is not ignored; the
    unsigned comparison lets it through as a default stack size of 2^64 - 5 bytes (the first
    stack allocation then aborts in `myth_mmap`) -/
theorem C15_pinned_stacksize_minus5 :
    stacksizePinned (some ['-', '5']) = 2 ^ 64 - 5 ∧ stacksize (some ['-', '5']) = defStack := by
  decide

/-- … and so for every negative value -/
theorem C15_pinned_stacksize_negative (s : CStr) (h : atoi s < 0) :
    (stacksizePinned (some s) : Int) = 2 ^ 64 + atoi s := by
  have hl := atoi_lo s
  unfold stacksizePinned toSizeT
  simp only []
  have h1 : atoi s % 2 ^ 64 = 2 ^ 64 + atoi s := by omega
  rw [h1]
  have h2 : ¬ (2 ^ 64 + atoi s).toNat ≤ 0 := by omega
  simp only [h2, if_false]
  omega

/-! ## the CPU list -/

/-- for every value of `MYTH_CPU_LIST` (or unset) and every capacity the parser of the current
    source terminates (it is a total function: structural recursion on the digits and on the free
    slots, well-founded recursion on the remaining suffix for the comma loop), never reads past
    the terminating NUL, writes at most `cap` entries, and returns -1 or the number of entries -/
theorem C15_cpulist_total (env : Option CStr) (cap : Nat) :
    ∃ r written d, parseCpuList false env cap = .ret r written d ∧ written.length ≤ cap ∧
      (r = -1 ∨ r = written.length) := by
  unfold parseCpuList
  cases env with
  | none => exact ⟨0, [], none, rfl, Nat.zero_le _, Or.inr rfl⟩
  | some str =>
    simp only []
    have hs := parseRangeList_safe cap { rest := str, i := 0, ok := 0 }
    generalize parseRangeList false cap { rest := str, i := 0, ok := 0 } [] = res at hs
    cases hs with
    | ok s out hl _ => exact ⟨out.length, out, none, rfl, hl, Or.inr rfl⟩
    | ng d out hl _ => exact ⟨-1, out, d, rfl, hl, Or.inl rfl⟩

/-- a list of the grammar `range(,range)*`, `range ::= a | a-b | a-b:c` (numbers below 2^31,
    positive stride, room for the result) yields exactly the CPUs it denotes, in order, without a
    diagnostic — with and without the pinned assertion -/
theorem C15_cpulist_wellformed (chk : Bool) (cap : Nat) (r0 : RangeS) (rs : List RangeS)
    (hv : ∀ r ∈ r0 :: rs, r.Valid) (hl : (cpusOf (r0 :: rs)).length ≤ cap) :
    parseCpuList chk (some (renderList r0 rs)) cap =
      .ret (cpusOf (r0 :: rs)).length (cpusOf (r0 :: rs)) none := by
  obtain ⟨s', hs'⟩ := parseRangeList_valid chk cap r0 rs hv hl
  simp [parseCpuList, hs']

/-- what a range denotes: `a-b:c` is exactly the set `{a + k*c | a + k*c < b}` -/
theorem C15_cpulist_range_members (a b c : CStr) (hc : 1 ≤ numVal c) (v : Int) :
    v ∈ (RangeS.stride a b c).cpus ↔
      ∃ k : Nat, v = ((numVal a + k * numVal c : Nat) : Int) ∧ numVal a + k * numVal c < numVal b :=
  mem_steps (numVal c) hc _ _ _ (Nat.le_refl _) v

/-- conversely, a string (without an embedded NUL) for which the parser does not return -1 is a
    list of the grammar: every ill-formed list is rejected -/
theorem C15_cpulist_illformed_error (chk : Bool) (str : CStr) (cap : Nat) (r : Int)
    (written : List Int) (d : Option Diag) (hn : nul ∉ str)
    (h : parseCpuList chk (some str) cap = .ret r written d) (hr : r ≠ -1) :
    ∃ (r0 : RangeS) (rs : List RangeS), (∀ x ∈ r0 :: rs, x.Syn) ∧ str = renderList r0 rs := by
  unfold parseCpuList at h
  simp only [] at h
  split at h
  · rename_i s' out hp
    obtain ⟨r0, rs, hsyn, hrest, hcur⟩ := parseRangeList_split chk cap _ _ _ hp
    simp only [] at hrest
    refine ⟨r0, rs, hsyn, ?_⟩
    cases hre : s'.rest with
    | nil => rw [hre] at hrest; simpa using hrest
    | cons c t =>
      exfalso
      have : c = nul := by simpa [cur, hre] using hcur
      apply hn
      rw [hrest, hre, this]
      simp
  · simp at h; exact absurd h.1.symm hr
  · simp at h
  · simp at h

/-- a rejected list is ignored with the diagnostic "malformed MYTH_CPU_LIST ignored": the
    available CPUs are those of an unset variable -/
theorem C15_cpulist_malformed_ignored (s : CStr) (ncpu : Nat) (avail : Nat → Bool)
    (w : List Int) (d : Option Diag) (h : parseCpuList false (some s) nMaxCpus = .ret (-1) w d) :
    ∃ a, availableCpus false none ncpu avail = some a ∧
      availableCpus false (some s) ncpu avail = some { a with malformed := true } := by
  unfold availableCpus
  rw [h]
  simp [parseCpuList]

/-- binding never uses a CPU outside the affinity mask or outside `[0, CPU_SETSIZE)`: every
    entry of `worker_cpu` passed `CPU_ISSET`, and a worker is bound to one of them (or not bound) -/
theorem C15_bind_cpu_available (env : Option CStr) (ncpu : Nat) (avail : Nat → Bool) (a : Avail)
    (h : availableCpus false env ncpu avail = some a) (rank : Nat) :
    (∀ c ∈ a.workerCpu, 0 ≤ c ∧ c < nMaxCpus ∧ avail c.toNat = true) ∧
    (workerCpu a rank = -1 ∨ workerCpu a rank ∈ a.workerCpu) := by
  constructor
  · intro c hc
    unfold availableCpus at h
    split at h
    · simp at h
    · simp at h
    · simp only [Option.some.injEq] at h
      rw [← h] at hc
      simp only [List.mem_filter] at hc
      have := hc.2
      simp only [cpuIsSet, Bool.and_eq_true, decide_eq_true_eq] at this
      exact ⟨this.1.1, this.1.2, this.2⟩
  · unfold workerCpu
    split
    · exact Or.inl rfl
    · rename_i hl
      right
      have hlt : rank % a.workerCpu.length < a.workerCpu.length := Nat.mod_lt _ (by omega)
      simp only [List.getD_eq_getElem?_getD, List.getElem?_eq_getElem hlt, Option.getD_some]
      exact List.getElem_mem hlt

/-- **the pinned snapshot violated C15** (defect D6): with the assertion in `next_char`,
    `MYTH_CPU_LIST="0\n"` aborts the process instead of being diagnosed and ignored … -/
theorem C15_pinned_cpulist_newline_aborts :
    parseCpuList true (some ['0', '\n']) 1024 = .abort ∧
    parseCpuList false (some ['0', '\n']) 1024 = .ret (-1) [0] (some { kind := .junk, okPos := 1, pos := 2 }) := by
  constructor <;>
    simp [parseCpuList, parseRangeList, parseRange, parseInt, digitsLoop, parseTail, fill, rangeLoop,
      cur, next, setOk, isDigit, digitVal, wrap32, nul]


/-- junk after a well-formed list — any character that cannot continue it (not a digit, `-`,
    `:`, `,`, NUL), followed by anything — is diagnosed ("junk at the end of CPU list") and the
    whole value rejected; **on the pinned snapshot the same input aborts the process when that
    character is a newline** (defect D6 in general form) -/
theorem C15_cpulist_trailing_junk (cap : Nat) (r0 : RangeS) (rs : List RangeS) (c : Char) (t : CStr)
    (hv : ∀ r ∈ r0 :: rs, r.Valid) (hl : (cpusOf (r0 :: rs)).length ≤ cap)
    (hc : isDigit c = false ∧ c ≠ '-' ∧ c ≠ ':' ∧ c ≠ ',' ∧ c ≠ nul) :
    (∃ d, parseCpuList false (some (renderList r0 rs ++ c :: t)) cap = .ret (-1) (cpusOf (r0 :: rs)) (some d) ∧
        d.kind = .junk) ∧
    (c = '\n' → parseCpuList true (some (renderList r0 rs ++ c :: t)) cap = .abort) := by
  have hsep : SepHead (c :: t) := by
    intro d hd; simp at hd; subst hd; exact ⟨hc.1, hc.2.1, hc.2.2.1⟩
  constructor
  · obtain ⟨sT, hT, hrun⟩ := parseRangeList_prefix false cap (c :: t) hsep r0 rs hv hl
    rw [rangeLoop_junk false cap sT _ c t hT hc.2.2.2.1 hc.2.2.2.2] at hrun
    simp only [Bool.false_and, Bool.false_eq_true, if_false] at hrun
    refine ⟨{ kind := .junk, okPos := sT.ok, pos := sT.i + 1 }, ?_, rfl⟩
    simp [parseCpuList, hrun]
  · intro hnl
    obtain ⟨sT, hT, hrun⟩ := parseRangeList_prefix true cap (c :: t) hsep r0 rs hv hl
    rw [rangeLoop_junk true cap sT _ c t hT hc.2.2.2.1 hc.2.2.2.2] at hrun
    have hq : (true && decide (c = '\n')) = true := by simp [hnl]
    rw [if_pos hq] at hrun
    simp [parseCpuList, hrun]

/-! ## the init-once protocol -/

/-- **exactly once per epoch**: in every reachable state (any number of callers of `myth_init`,
    `myth_init_ex`, implicit initialisation, any interleaving, any init/fini history) the real
    initialisation ran at most once in every epoch, exactly once in every completed epoch and in
    the current one when the state word says `initialized`, and not yet when it says `uninit` -/
theorem C15_init_once (ncpu : Int) (hc : 0 < ncpu) (s : St) (h : Reachable (step ncpu) init s) :
    (∀ e, s.inits e ≤ 1) ∧ (∀ e, e < s.epoch → s.inits e = 1) ∧
    (s.state = sInitialized → s.inits s.epoch = 1) ∧ (s.state = sUninit → s.inits s.epoch = 0) := by
  have hi := inv_of_reachable ncpu hc s h
  refine ⟨?_, hi.past, fun h => (hi.ined h).1, fun h => (hi.unin h).1⟩
  intro e
  rcases Nat.lt_trichotomy e s.epoch with h1 | h1 | h1
  · rw [hi.past e h1]; exact Nat.le_refl 1
  · subst h1
    rcases hi.st3 with h2 | h2 | h2
    · rw [(hi.unin h2).1]; exact Nat.zero_le 1
    · obtain ⟨t, ht⟩ := hi.elEx h2
      cases ht with
      | inl ht => rw [(hi.i3c t ht).1]; exact Nat.zero_le 1
      | inr ht => rw [(hi.i4c t ht).1]; exact Nat.le_refl 1
    · rw [(hi.ined h2).1]; exact Nat.le_refl 1
  · rw [hi.future e h1]; exact Nat.zero_le 1

/-- at most one caller at a time is the elected initialiser, and only while the state word says
    `initializing` -/
theorem C15_single_initialiser (ncpu : Int) (hc : 0 < ncpu) (s : St)
    (h : Reachable (step ncpu) init s) (t u : Tid)
    (ht : s.pc t = .i3 ∨ s.pc t = .i4) (hu : s.pc u = .i3 ∨ s.pc u = .i4) :
    t = u ∧ s.state = sInitializing :=
  let hi := inv_of_reachable ncpu hc s h
  ⟨hi.elUniq t u ht hu, hi.elSt t ht⟩

/-- a call of `myth_init` / `myth_init_ex` / an implicitly initialising API function returns
    only when the library is initialised: the step by which a caller returns leaves the state
    word at `initialized`, with the one initialisation of this epoch completed and the workers
    running -/
theorem C15_return_after_completion (ncpu : Int) (hc : 0 < ncpu) (s s' : St) (t : Tid)
    (h : Reachable (step ncpu) init s) (hp : s.pc t ≠ .idle)
    (hs : step ncpu s (.step t) = some s') (hr : s'.pc t = .idle) :
    s'.state = sInitialized ∧ s'.inits s'.epoch = 1 ∧
    (s'.fin ≠ .f4 → s'.workers = List.range s'.gattr.nWorkers.toNat) := by
  have hi' : Inv s' := inv_of_reachable ncpu hc s' (reachable_step _ _ _ _ _ h hs)
  have hst : s'.state = sInitialized := by
    simp only [step] at hs
    cases hpc : s.pc t with
    | idle => exact absurd hpc hp
    | e0 => simp only [hpc] at hs; split at hs <;> (simp at hs; subst hs) <;> simp_all [upd]
    | i0 => simp only [hpc] at hs; split at hs <;> (simp at hs; subst hs) <;> simp_all [upd]
    | i1 => simp only [hpc] at hs; split at hs <;> (simp at hs; subst hs) <;> simp_all [upd]
    | i2 => simp only [hpc] at hs; split at hs <;> (simp at hs; subst hs) <;> simp_all [upd]
    | i3 => simp only [hpc] at hs; simp at hs; subst hs; simp [upd] at hr
    | i4 => simp only [hpc] at hs; simp at hs; subst hs; rfl
  exact ⟨hst, (hi'.ined hst).1, fun hf => ((hi'.ined hst).2.2.1 hf).1⟩

/-- **worker count and ranks**: while the library is initialised (and the finaliser has not yet
    joined the workers) exactly `n = g_attr.n_workers > 0` workers run, their ranks are
    `0, 1, …, n-1` (pairwise distinct, all in `[0, n)`), and the main thread runs on one of them -/
theorem C15_workers_exact (ncpu : Int) (hc : 0 < ncpu) (s : St) (h : Reachable (step ncpu) init s)
    (hst : s.state = sInitialized) (hf : s.fin ≠ .f4) :
    0 < s.gattr.nWorkers ∧ s.workers = List.range s.gattr.nWorkers.toNat ∧
    s.workers.length = s.gattr.nWorkers.toNat ∧ s.workers.Nodup ∧
    (∀ r ∈ s.workers, r < s.gattr.nWorkers.toNat) ∧ s.mainOn ∈ s.workers := by
  have hi := inv_of_reachable ncpu hc s h
  obtain ⟨_, hpos, hw, _⟩ := hi.ined hst
  obtain ⟨hw1, hm⟩ := hw hf
  refine ⟨hpos, hw1, ?_, ?_, ?_, ?_⟩
  · rw [hw1]; simp
  · rw [hw1]; exact List.nodup_range
  · intro r hr; rw [hw1] at hr; simpa using hr
  · rw [hw1]; simpa using hm

/-- the configuration the elected initialiser installs: the attribute passed to `myth_init_ex`,
    else the global attribute if it was ever initialised (it persists across `myth_fini`), else
    the defaults read from the environment — so with `attr` the worker count is `attr`'s, and
    without one (and nothing set before) it is `MYTH_NUM_WORKERS` if positive, else the CPU count -/
theorem C15_installed_config (ncpu : Int) (s s' : St) (t : Tid) (hp : s.pc t = .i3)
    (hs : step ncpu s (.step t) = some s') :
    s'.gattr = resolve ncpu s (s.arg t) ∧ s'.workers = List.range s'.gattr.nWorkers.toNat ∧
    (∀ a, s.arg t = some a → s'.gattr.nWorkers = a.nWorkers) ∧
    (s.arg t = none → s.gattr.initialized = false →
      s'.gattr.nWorkers = (numWorkers s.environ.nw s.environ.oldNw ncpu).1 ∧
      s'.gattr.stacksize = stacksize s.environ.stk) := by
  simp only [step, hp] at hs
  simp at hs; subst hs
  refine ⟨rfl, rfl, ?_, ?_⟩
  · intro a ha; simp [resolve, ha]
  · intro ha hi; simp [resolve, ha, hi, gattrDefault]

/-- nothing changes the installed configuration or the set of workers while the library stays
    initialised, except the finaliser's joins -/
theorem C15_config_stable (ncpu : Int) (hc : 0 < ncpu) (s s' : St) (l : Label)
    (h : Reachable (step ncpu) init s) (hst : s.state = sInitialized)
    (hs : step ncpu s l = some s') :
    s'.gattr = s.gattr ∧ (s'.workers = s.workers ∨ (s.fin = .f3 ∧ s'.workers = [])) := by
  have d2 := st_ne2; have d3 := st_ne3
  cases l with
  | callInit t a => simp only [step] at hs; split at hs <;> simp at hs; subst hs; simp
  | callEnsure t => simp only [step] at hs; split at hs <;> simp at hs; subst hs; simp
  | step t =>
    simp only [step] at hs
    cases hpc : s.pc t with
    | idle => simp [hpc] at hs
    | e0 => simp only [hpc] at hs; split at hs <;> (simp at hs; subst hs; simp)
    | i0 => simp only [hpc] at hs; split at hs <;> (simp at hs; subst hs; simp)
    | i1 => simp only [hpc] at hs; split at hs <;> (simp at hs; subst hs; simp_all)
    | i2 => simp only [hpc] at hs; split at hs <;> (simp at hs; subst hs; simp)
    | i3 => exact absurd ((inv_of_reachable ncpu hc s h).elSt t (Or.inl hpc) ▸ hst) d3
    | i4 => simp only [hpc] at hs; simp at hs; subst hs; simp
  | callFini => simp only [step] at hs; split at hs <;> simp at hs; subst hs; simp
  | finStep =>
    simp only [step] at hs
    cases hf : s.fin with
    | idle => simp [hf] at hs
    | f0 => simp only [hf] at hs; split at hs <;> (simp at hs; subst hs; simp)
    | f1 => simp only [hf] at hs; split at hs <;> (simp at hs; subst hs; simp)
    | f2 => simp only [hf] at hs; simp at hs; subst hs; simp
    | f3 => simp only [hf] at hs; simp at hs; subst hs; simp
    | f4 => simp only [hf] at hs; simp at hs; subst hs; simp
  | setenv e => simp only [step] at hs; simp at hs; subst hs; simp
  | setGlobal n => simp only [step] at hs; split at hs <;> simp at hs; rename_i hc; exact absurd (hc.1.symm.trans hst) d2
  | migrate r => simp only [step] at hs; split at hs <;> simp at hs; subst hs; simp

/-- **after finalisation all workers have stopped**: once the finaliser has passed the joins, and
    whenever the state word says `uninit`, no worker runs; the joins are executed by the main
    thread back on worker 0 (the assertion `rank == 0` in `myth_fini_body` holds) even if it had
    migrated to another worker when `myth_fini` was called -/
theorem C15_fini_stops_workers (ncpu : Int) (hc : 0 < ncpu) (s : St) (h : Reachable (step ncpu) init s) :
    (s.state = sUninit → s.workers = []) ∧ (s.fin = .f4 → s.workers = []) ∧
    ((s.fin = .f3 ∨ s.fin = .f4) → s.mainOn = 0) := by
  have hi := inv_of_reachable ncpu hc s h
  exact ⟨fun h => (hi.unin h).2, fun hf => (hi.ined (hi.finSt (Or.inr (Or.inr hf)))).2.2.2 hf, hi.f3main⟩

/-- no call is in progress -/
def Quiescent (s : St) : Prop := (∀ t, s.pc t = .idle) ∧ s.fin = .idle

/-- `myth_init_ex(&a)` by a single caller on an uninitialised library -/
def initSeq (a : GAttr) : List Label := [.callInit 0 (some a), .step 0, .step 0, .step 0, .step 0]
/-- `myth_fini()` on an initialised library -/
def finiSeq : List Label := [.callFini, .finStep, .finStep, .finStep, .finStep, .finStep]

/-- a single caller's `myth_init_ex(&a)` on an uninitialised library runs to completion in five
    steps and installs `a` -/
theorem C15_sequential_init (ncpu : Int) (s : St) (a : GAttr) (ha : 0 < a.nWorkers) (hq : Quiescent s)
    (hst : s.state = sUninit) (h0 : s.inits s.epoch = 0) :
    ∃ s', runs (step ncpu) s (initSeq a) = some s' ∧ Quiescent s' ∧ s'.state = sInitialized ∧
      s'.gattr = a ∧ s'.workers = List.range a.nWorkers.toNat ∧ s'.inits s'.epoch = 1 ∧
      s'.epoch = s.epoch := by
  have hp0 := hq.1 0
  have d1 := st_ne1; have d2 := st_ne2
  have hne : ¬ s.state = sInitialized := by rw [hst]; exact d2
  refine ⟨{ s with state := sInitialized, gattr := a, workers := List.range a.nWorkers.toNat, mainOn := 0,
                     inits := upd s.inits s.epoch (s.inits s.epoch + 1),
                     pc := upd (upd (upd (upd (upd s.pc 0 .i0) 0 .i1) 0 .i3) 0 .i4) 0 .idle,
                     arg := upd s.arg 0 (some a) }, ?_, ?_⟩
  · simp [initSeq, runs, step, hp0, attrOk, ha, hst, resolve, d2]
  · refine ⟨⟨?_, hq.2⟩, rfl, rfl, rfl, ?_, rfl⟩
    · intro t; simp only [upd]; split <;> simp [hq.1 t]
    · simp [h0]

/-- `myth_fini()` on an initialised, quiescent library runs to completion, stops the workers and
    opens the next epoch; `g_attr` is kept -/
theorem C15_sequential_fini (ncpu : Int) (s : St) (hq : Quiescent s) (hst : s.state = sInitialized) :
    ∃ s', runs (step ncpu) s finiSeq = some s' ∧ Quiescent s' ∧ s'.state = sUninit ∧
      s'.workers = [] ∧ s'.epoch = s.epoch + 1 ∧ s'.inits = s.inits ∧ s'.gattr = s.gattr := by
  have d2 := st_ne2
  have hne : ¬ s.state = sUninit := by rw [hst]; exact fun h => d2 h.symm
  refine ⟨{ s with state := sUninit, workers := [], mainOn := 0, epoch := s.epoch + 1, fin := .idle }, ?_, ?_⟩
  · simp [finiSeq, runs, step, hq.2, hst, d2.symm]
  · exact ⟨⟨hq.1, rfl⟩, rfl, rfl, rfl, rfl, rfl⟩

/-- **a fresh initialisation with different settings works, after any history**: from every
    reachable state in which no call is in progress — whatever sequence of initialisations,
    finalisations, concurrent callers, environment changes and migrations led there — finalising
    (if initialised) and then calling `myth_init_ex(&a)` is possible and leaves the library
    initialised exactly once in the new epoch, with `a`'s settings and exactly `a.n_workers` workers -/
theorem C15_fini_reinit (ncpu : Int) (hc : 0 < ncpu) (s : St) (h : Reachable (step ncpu) init s)
    (hq : Quiescent s) (a : GAttr) (ha : 0 < a.nWorkers) :
    ∃ ls s', runs (step ncpu) s ls = some s' ∧ Quiescent s' ∧ s'.state = sInitialized ∧
      s'.gattr = a ∧ s'.workers = List.range a.nWorkers.toNat ∧ s'.inits s'.epoch = 1 ∧
      (s.state = sInitialized → s'.epoch = s.epoch + 1) := by
  have hi := inv_of_reachable ncpu hc s h
  rcases hi.st3 with h1 | h1 | h1
  · obtain ⟨s', hr, hq', h2, h3, h4, h5, _⟩ := C15_sequential_init ncpu s a ha hq h1 (hi.unin h1).1
    exact ⟨initSeq a, s', hr, hq', h2, h3, h4, h5, fun h => absurd (h1.symm.trans h) st_ne2⟩
  · obtain ⟨t, ht⟩ := hi.elEx h1
    rw [hq.1 t] at ht
    cases ht with
    | inl ht => cases ht
    | inr ht => cases ht
  · obtain ⟨s1, hr1, hq1, hs1, _, he1, hin1, _⟩ := C15_sequential_fini ncpu s hq h1
    have hfut : s1.inits s1.epoch = 0 := by rw [hin1, he1]; exact hi.future _ (Nat.lt_succ_self _)
    obtain ⟨s', hr, hq', h2, h3, h4, h5, h6⟩ := C15_sequential_init ncpu s1 a ha hq1 hs1 hfut
    refine ⟨finiSeq ++ initSeq a, s', ?_, hq', h2, h3, h4, h5, fun _ => by rw [h6, he1]⟩
    rw [runs_append, hr1]
    exact hr

/-! ## ranks used for stealing -/

/-- `myth_random(min, max)` stays in `[min, max)` -/
theorem C15_random_in_range (min max : Int) (raw : Nat) (hm : min < max) (hr : raw < 2 ^ 31) :
    min ≤ mythRandom min max raw ∧ mythRandom min max raw < max := by
  unfold mythRandom
  have hd : 0 < max - min := by omega
  have h1 : 0 ≤ (raw : Int) * (max - min) := Int.mul_nonneg (by omega) (by omega)
  have h2 : (raw : Int) * (max - min) < (max - min) * 2 ^ 31 := by
    rw [Int.mul_comm]
    exact Int.mul_lt_mul_of_pos_left (by omega) hd
  have h3 : (raw : Int) * (max - min) / 2 ^ 31 < max - min :=
    Int.ediv_lt_of_lt_mul (by decide) h2
  have h4 : 0 ≤ (raw : Int) * (max - min) / 2 ^ 31 := Int.ediv_nonneg h1 (by decide)
  omega

/-- the steal victim (`myth_env_get_first_busy`): with one worker there is none; with `n ≥ 2`
    workers it is a valid index into `g_envs`, and never the thief itself -/
theorem C15_victim_in_range (n rank : Int) (raw : Nat) (hr : raw < 2 ^ 31) :
    (n ≤ 1 → victim n rank raw = none) ∧
    (2 ≤ n → ∃ v, victim n rank raw = some v ∧ 0 ≤ v ∧ (0 ≤ rank → rank < n → v < n) ∧ v ≠ rank) := by
  constructor
  · intro h; simp [victim, h]
  · intro h
    have hn : ¬ n ≤ 1 := by omega
    obtain ⟨h1, h2⟩ := C15_random_in_range 0 (n - 1) raw (by omega) hr
    simp only [victim, hn, if_false]
    refine ⟨_, rfl, ?_, ?_, ?_⟩
    · split <;> omega
    · intro _ _; split <;> omega
    · split <;> omega

/-! ### non-vacuity -/

/-- the hypotheses of `C15_env_number_used` are satisfiable: `MYTH_NUM_WORKERS=64` -/
example : (numWorkers (some ['6', '4']) none 16).1 = 64 ∧ stacksize (some ['6', '5', '5', '3', '6']) = 65536 := by
  decide

/-- malformed values of every kind the property lists are ignored -/
example : (numWorkers (some []) none 16).1 = 16 ∧ (numWorkers (some ['a', 'b']) none 16).1 = 16 ∧
    (numWorkers (some ['-', '3']) none 16).1 = 16 ∧ (numWorkers (some ['0']) none 16).1 = 16 ∧
    stacksize (some [' ', '+', 'x']) = 131072 := by decide

/-- a well-formed list with all three forms: `0-3,8-16:4,5` -/
example : parseCpuList false (some (renderList (.span ['0'] ['3'])
      [.stride ['8'] ['1', '6'] ['4'], .single ['5']])) 1024 = .ret 6 [0, 1, 2, 8, 12, 5] none := by
  rw [C15_cpulist_wellformed]
  · decide
  · intro r hr
    simp at hr
    rcases hr with h | h | h <;> subst h <;>
      simp [RangeS.Valid, Tok, AllDigits, numVal, digitsVal, isDigit, digitVal]
  · decide

/-- a zero stride terminates through the bounded list (`0-3:0` with room for 8 entries) -/
example : parseCpuList false (some ['0', '-', '3', ':', '0']) 8 =
    .ret (-1) [0, 0, 0, 0, 0, 0, 0, 0] (some { kind := .tooMany, okPos := 0, pos := 5 }) := by
  simp [parseCpuList, parseRangeList, parseRange, parseInt, digitsLoop, parseTail, fill,
    cur, next, isDigit, digitVal, wrap32, nul]

/-- an initialised, quiescent state with 3 workers is reachable; `C15_workers_exact` and
    `C15_fini_reinit` apply to it -/
example : ∃ s, Reachable (step 16) init s ∧ s.state = sInitialized ∧ Quiescent s ∧
    s.workers = [0, 1, 2] := by
  obtain ⟨s', hr, hq, hs, _, hw, _⟩ := C15_sequential_init 16 init
    { gattrZero with nWorkers := 3, initialized := true } (by decide) ⟨fun _ => rfl, rfl⟩ rfl rfl
  exact ⟨s', ⟨_, hr⟩, hs, hq, by rw [hw]; decide⟩

/-- two concurrent callers: the second one loses the CAS and waits (a reachable state with a
    waiter and an elected initialiser) -/
example : ∃ s, Reachable (step 16) init s ∧ s.pc 0 = .i3 ∧ s.pc 1 = .i2 ∧ s.state = sInitializing := by
  refine ⟨_, ⟨[.callInit 0 none, .callInit 1 none, .step 0, .step 1, .step 0, .step 1], rfl⟩, ?_, ?_, ?_⟩ <;>
    decide

end MythVerif.C15

namespace MythVerif.WBarrier
open MythVerif

/-! ### the workers' start/stop barrier (`src/myth_internal_barrier.c`): why a fresh initialisation
    after a finalisation works, with the same or a different number of workers -/

/-- **re-initialisation forgets everything**: whatever the (static, reused) barrier object held —
    the phase and both counters left behind by the previous library lifetime, or garbage —
    `myth_internal_barrier_init(b, n)` leaves exactly a fresh barrier for `n` threads -/
theorem C15_worker_barrier_init_resets (garbage : Raw) (n : Nat) :
    barrierInit garbage n = { n := n, phase := 0, cur0 := 0, cur1 := 0 } := by
  cases garbage; rfl

/-- **nobody passes early, and the barrier is reusable round after round**: from a fresh barrier for
    the (duplicate-free, non-empty) worker list `parts`, in every reachable state, whenever a step
    lets worker `t` return from its `k`-th wait (as the last arriver or woken from the condition
    variable), exactly `n` arrivals were recorded for round `k`, by pairwise different workers, and
    every worker is among them -/
theorem C15_worker_barrier_no_early_pass (parts : List Tid) (hnd : parts.Nodup) (hne : parts ≠ [])
    (s s' : St) (l : Lbl) (t : Tid) (h : Reachable step (init parts) s) (hs : step s l = some s')
    (hret : s'.rnd t = s.rnd t + 1) :
    (s'.arrivedBy (s.rnd t)).length = s.n ∧ (s'.arrivedBy (s.rnd t)).Nodup ∧
    ∀ u, u ∈ s.parts → u ∈ s'.arrivedBy (s.rnd t) := by
  have hi := reachable_inv parts hnd hne s h
  have hi' := inv_step s s' l hi hs
  obtain ⟨hp, hn'⟩ := parts_const s s' l hs
  have hk : s.rnd t < s'.gen := by
    cases l with
    | arrive t' =>
      simp only [step] at hs
      split at hs
      · rename_i hc
        split at hs
        · simp only [Option.some.injEq] at hs; subst hs; simp at hret
        · simp only [Option.some.injEq] at hs; subst hs
          by_cases e : t = t'
          · subst e
            have := hi.idle t hc.2 hc.1
            simp only; omega
          · simp only [upd_other _ _ _ _ e] at hret; omega
      · simp at hs
    | wake t' =>
      simp only [step] at hs
      split at hs
      · rename_i ph' hpc
        split at hs
        · rename_i hcur
          simp only [Option.some.injEq] at hs; subst hs
          by_cases e : t = t'
          · subst e
            obtain ⟨_, hcase⟩ := hi.wcur t ph' hpc
            rcases hcase with ⟨a, _, _⟩ | ⟨_, b⟩
            · subst a; have := hi.lt; omega
            · simp only; omega
          · simp only [upd_other _ _ _ _ e] at hret; omega
        · simp at hs
      · simp at hs
  obtain ⟨h1, h2, h3⟩ := hi'.past (s.rnd t) hk
  refine ⟨by rw [h1, hn'], h2, ?_⟩
  intro u hu
  have hsub : ∀ x ∈ s'.arrivedBy (s.rnd t), x ∈ s'.parts := h3
  exact subset_of_nodup_of_length_le _ _ h2 hi'.nd hsub (by rw [h1, hi'.hn]; exact Nat.le_refl _) u (hp ▸ hu)

/-- the workers advance in lock step: nobody is ahead of the barrier's round, nobody more than one
    round behind (the sleepers of the round just completed) -/
theorem C15_worker_barrier_lockstep (parts : List Tid) (hnd : parts.Nodup) (hne : parts ≠ [])
    (s : St) (h : Reachable step (init parts) s) (t : Tid) (ht : t ∈ s.parts) :
    s.rnd t = s.gen ∨ s.rnd t + 1 = s.gen := by
  have hi := reachable_inv parts hnd hne s h
  cases hp : s.pc t with
  | idle => exact Or.inl (hi.idle t ht hp)
  | wait ph =>
    rcases (hi.wcur t ph hp).2 with ⟨_, b, _⟩ | ⟨_, b⟩
    · exact Or.inl b
    · exact Or.inr b

/-- **no hang**: in every reachable state some worker can move — one that has not arrived in the
    current round can arrive, or a sleeper of the completed round can return; in particular the
    state "everybody sleeps" (what a stale counter produces) is unreachable -/
theorem C15_worker_barrier_never_stuck (parts : List Tid) (hnd : parts.Nodup) (hne : parts ≠ [])
    (s : St) (h : Reachable step (init parts) s) :
    ∃ t, t ∈ s.parts ∧ ((step s (.arrive t)).isSome = true ∨ (step s (.wake t)).isSome = true) := by
  have hi := reachable_inv parts hnd hne s h
  have hex : ∃ u, u ∈ s.parts ∧ u ∉ s.arrivedBy s.gen := by
    apply Classical.byContradiction
    intro hno
    have hall : ∀ u ∈ s.parts, u ∈ s.arrivedBy s.gen := by
      intro u hu
      apply Classical.byContradiction
      intro hnu
      exact hno ⟨u, hu, hnu⟩
    have := hi.nd.length_le_of_subset fun u hu => hall u hu
    have h1 := hi.arrL; have h2 := hi.lt; have h3 := hi.hn
    omega
  obtain ⟨u, hu, hnu⟩ := hex
  refine ⟨u, hu, ?_⟩
  cases hp : s.pc u with
  | idle =>
    left
    simp only [step, hp, hu, and_self, if_true]
    split <;> rfl
  | wait ph =>
    right
    rcases (hi.wcur u ph hp).2 with ⟨_, _, c⟩ | ⟨a, b⟩
    · exact absurd c hnu
    · have hg : 0 < s.gen := by omega
      have := hi.prev hg
      simp [step, hp, a, this]

/-- non-vacuity: three workers, two full rounds (a start and a stop of the library); in round 0
    worker 3 arrives last and flips the phase while 1 and 2 sleep; worker 1 is back in round 1 before
    worker 2 has even woken up from round 0 -/
example :
    (runs step (init [1, 2, 3])
      [.arrive 1, .arrive 2, .arrive 3, .wake 1, .arrive 1, .wake 2, .arrive 3, .arrive 2, .wake 3]).map
      (fun s => (s.gen, s.phase, s.cur 0, s.cur 1)) = some (2, 0, 0, 3) ∧
    (runs step (init [1, 2, 3])
      [.arrive 1, .arrive 2, .arrive 3, .wake 1, .arrive 1, .wake 2, .arrive 3, .arrive 2, .wake 3]).map
      (fun s => (s.rnd 1, s.rnd 2, s.rnd 3, s.arrivedBy 0, s.arrivedBy 1)) = some (1, 2, 2, [1, 2, 3], [1, 3, 2]) := by
  decide

/-- `barrierInit` on what a finished lifetime of 4 workers leaves behind: no counter survives
    (a barrier whose live counter starts at the old worker count never opens: everybody sleeps) -/
example : barrierInit { n := 4, phase := 1, cur0 := 4, cur1 := 0 } 4 = { n := 4, phase := 0, cur0 := 0, cur1 := 0 } := by decide

end MythVerif.WBarrier
