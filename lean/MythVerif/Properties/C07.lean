import MythVerif.Proofs.JoinCounterReach
/-!
# C07 — join counter: waiters released exactly when the N-th decrement happens

Model `MythVerif.JoinCounter` (`myth_join_counter_wait_body`, `myth_join_counter_dec_body`,
`myth_block_on_queue`, `myth_wake_many_from_queue`), one label per shared access, the packed state
word and its field extraction exactly as in the code (`MythVerif.JcArith`).

Quantifiers: **any** `N ≥ 0` (the word is a `Nat`; `JcArith.Representable` is the explicit
condition under which the 64-bit `long` computes the same, `C07_bv64`), any number of threads
(`Tid := Nat`), each waiting and/or decrementing any number of times, any interleaving
(`Reachable` = any finite label sequence from `init`; workers do not appear because a label is
enabled whichever worker executes it).  No well-usedness hypothesis: a decrement beyond the N-th
is the code's "excess threads" `exit(1)` (`dexit`) and does not touch the counter.

`s.ndec` counts the decrements performed (successful CAS +1); it equals the decrement field of
the word (`C07_word_counts`).
-/
namespace MythVerif.JoinCounter
open MythVerif MythVerif.JcArith

/-- the fields of the word count what happened: decrements performed, and – once the N-th
    decrement happened – every announced waiter is accounted for -/
theorem C07_word_counts (N : Nat) (s : St) (h : Reachable (step N) init s) :
    decsOf N s.state = s.ndec ∧ s.ndec ≤ N ∧
    (s.ndec < N → waitersOf N s.state = s.anns.length + s.q.length) ∧
    (s.ndec = N → waitersOf N s.state = s.pushes + s.wk.length + s.anns.length + s.q.length) := by
  have hi := reach_inv N s h
  have he := hi.ndE
  refine ⟨he.symm, by rw [he]; exact hi.dN, ?_, ?_⟩
  · intro hlt; rw [he] at hlt; exact (hi.pre hlt).1
  · intro heq; rw [he] at heq; exact (hi.acct heq).symm

/-- **no early release.**  A wait returns only in a state in which `N` decrements have been
    performed; a thread is resumed (in a run queue), dequeued or pushed only then; until then
    nothing was ever pushed and no wait ever returned; and the `assert` after the block never
    fires. -/
theorem C07_no_early_release (N : Nat) (s : St) (h : Reachable (step N) init s) :
    (∀ t v s', step N s (.waitRead t v) = some s' → s'.pc t = .idle → s.ndec = N) ∧
    (∀ t, s.pc t = .woken → s.ndec = N) ∧
    (∀ t, ldrPc (s.pc t) = true → s.ndec = N) ∧
    (s.ndec < N → s.pushes = 0 ∧ s.rets = 0 ∧ s.wk = []) ∧
    (∀ t, s.pc t ≠ .afail) := by
  have hi := reach_inv N s h
  have he := hi.ndE
  refine ⟨?_, ?_, ?_, ?_, hi.noAf⟩
  · intro t v s' hs hidle
    simp only [step] at hs
    split at hs
    · rename_i hv
      split at hs
      · split at hs
        · rename_i hd; rw [he, ← hv]; exact hd
        · simp at hs; subst hs; simp at hidle
      · split at hs
        · split at hs
          · rename_i hd; rw [he, ← hv]; exact hd
          · simp at hs; subst hs; simp at hidle
        · simp at hs
    · simp at hs
  · intro t ht; rw [he]; exact hi.wok t ht
  · intro t ht; rw [he]; exact (hi.rel ((hi.ldrI t).mp ht)).1
  · intro hlt
    rw [he] at hlt
    obtain ⟨_, a, _, b, c⟩ := hi.pre hlt
    exact ⟨b, c, a⟩

/-- **all released: the count.**  The decrementer whose CAS performs the N-th decrement takes from
    the word it replaced exactly the number of threads that are asleep or have announced
    themselves at that instant (`q` and `anns`), and that is the number it will dequeue; with none
    it is done at once. -/
theorem C07_last_dec_count (N : Nat) (s s' : St) (h : Reachable (step N) init s) (t : Tid)
    (hs : step N s (.decCas t true) = some s') (hlast : s.ndec + 1 = N) :
    s'.ndec = N ∧
    ((s.anns.length + s.q.length = 0 ∧ s'.pc t = .idle) ∨
     (0 < s.anns.length + s.q.length ∧ s'.pc t = .ddeq (s.anns.length + s.q.length) [])) ∧
    s'.q = s.q ∧ s'.anns = s.anns := by
  have hi := reach_inv N s h
  have he := hi.ndE
  simp only [step] at hs
  split at hs
  · rename_i v hpc
    split at hs
    · rename_i hc
      simp at hc
      rw [← hc] at hs
      have hlt : decsOf N s.state < N := by rw [← he]; omega
      have hW := (hi.pre hlt).1
      simp only [if_true] at hs
      rw [if_pos (by rw [← he]; exact hlast)] at hs
      split at hs
      · rename_i hw0
        simp at hs; subst hs
        refine ⟨by simp; omega, Or.inl ⟨by omega, by simp⟩, rfl, rfl⟩
      · rename_i hw0
        simp at hs; subst hs
        refine ⟨by simp; omega, Or.inr ⟨by omega, by simp [hW]⟩, rfl, rfl⟩
    · simp at hs
  · simp at hs

/-- **all released: during and after the release.**  While the last decrementer still dequeues,
    the number it has yet to take equals the number of threads asleep in the queue or announced
    and on their way into it (so its spin on an empty queue always waits for a thread that will
    come); it pushes only after the last dequeue; and once it is done (`N` decrements, no release
    in progress) no thread is asleep, announced or dequeued-but-unpushed, and the number of threads
    pushed to a run queue equals the waiter field of the word: every announced waiter was handed
    to the scheduler. -/
theorem C07_all_released (N : Nat) (s : St) (h : Reachable (step N) init s) :
    (∀ t k acc, s.pc t = .ddeq k acc → k = s.anns.length + s.q.length ∧ 1 ≤ k ∧ s.wk = acc) ∧
    (∀ t rem, s.pc t = .dpush rem → s.q = [] ∧ s.anns = [] ∧ s.wk = rem) ∧
    (s.ndec = N → (∀ t, ldrPc (s.pc t) = false) →
       (∀ t, s.pc t ≠ .asleep ∧ annPc (s.pc t) = false) ∧ s.q = [] ∧ s.wk = [] ∧
       s.pushes = waitersOf N s.state) := by
  have hi := reach_inv N s h
  refine ⟨?_, ?_, ?_⟩
  · intro t k acc ht
    obtain ⟨a, b, c⟩ := hi.ddq t k acc ht
    exact ⟨b, c, a⟩
  · intro t rem ht
    obtain ⟨a, _, b, c⟩ := hi.dpu t rem ht
    exact ⟨c, b, a⟩
  · intro hN hl
    have hd : decsOf N s.state = N := by rw [← hi.ndE]; exact hN
    obtain ⟨ha, hq, hw⟩ := hi.fin hd (ldr_none_of N s hi hl)
    refine ⟨?_, hq, hw, ?_⟩
    · intro t
      constructor
      · intro hpc
        rcases hi.asl t hpc with h | h
        · rw [hq] at h; cases h
        · rw [hw] at h; cases h
      · cases hb : annPc (s.pc t) with
        | false => rfl
        | true => have := (hi.annM t).mpr hb; rw [ha] at this; cases this
    · have := hi.acct hd
      rw [ha, hq, hw] at this
      simpa using this

/-- the step that hands a dequeued thread to the scheduler finds it asleep, dequeued and no longer
    in the queue, takes it out of the dequeued set, makes it runnable and counts one push -/
theorem C07_wake_exactly_once (N : Nat) (s s' : St) (h : Reachable (step N) init s) (t x : Tid)
    (hs : step N s (.wakePush t x) = some s') :
    s.pc x = .asleep ∧ x ∈ s.wk ∧ x ∉ s.q ∧ x ∉ s'.wk ∧ x ∉ s'.q ∧ s'.pc x = .woken ∧ s'.pushes = s.pushes + 1 := by
  have hi := reach_inv N s h
  simp only [step] at hs
  split at hs
  · rename_i y rem hpc
    split at hs
    · rename_i hxy
      subst hxy
      simp at hs
      have hwk := (hi.dpu t _ hpc).1
      have hxw : x ∈ s.wk := by rw [hwk]; simp
      have hxa := hi.wkA x hxw
      have hxt : x ≠ t := by intro e; subst e; rw [hpc] at hxa; cases hxa
      have hnq : x ∉ s.q := fun hq => hi.qw x hq hxw
      subst hs
      refine ⟨hxa, hxw, hnq, ?_, hnq, ?_, rfl⟩
      · simp only; intro hm; exact ((List.Nodup.mem_erase_iff hi.wkN).mp hm).1 rfl
      · simp [hxt]
    · simp at hs
  · simp at hs

/-- at most one thread releases (dequeues / pushes): the one whose CAS made the N-th decrement -/
theorem C07_single_waker (N : Nat) (s : St) (h : Reachable (step N) init s) (t1 t2 : Tid)
    (h1 : ldrPc (s.pc t1) = true) (h2 : ldrPc (s.pc t2) = true) : t1 = t2 := by
  have hi := reach_inv N s h
  have a := (hi.ldrI t1).mp h1
  have b := (hi.ldrI t2).mp h2
  rw [a] at b; exact Option.some.inj b

/-- **a late wait returns immediately.**  Once `N` decrements have been performed, a wait reads the
    word, returns at once, and neither announces itself, enqueues nor changes the counter – also
    while the last decrementer is still releasing the earlier waiters; and a wait CAS can no longer
    succeed. -/
theorem C07_late_wait_immediate (N : Nat) (s : St) (h : Reachable (step N) init s) (hN : s.ndec = N)
    (t : Tid) (ht : s.pc t = .idle) :
    (∃ s', step N s (.waitRead t s.state) = some s') ∧
    (∀ v s', step N s (.waitRead t v) = some s' →
       s'.pc t = .idle ∧ s'.state = s.state ∧ s'.q = s.q ∧ s'.anns = s.anns ∧ s'.rets = s.rets + 1) ∧
    (∀ u s', step N s (.waitCas u true) = some s' → False) := by
  have hi := reach_inv N s h
  have hd : decsOf N s.state = N := by rw [← hi.ndE]; exact hN
  refine ⟨?_, ?_, ?_⟩
  · simp [step, ht, hd]
  · intro v s' hs
    simp only [step, ht] at hs
    split at hs
    · rename_i hv
      subst hv
      simp [hd] at hs
      subst hs; simp
    · simp at hs
  · intro u s' hs
    simp only [step] at hs
    split at hs
    · rename_i v hpc
      split at hs
      · rename_i hc
        simp at hc
        have := hi.wrC u v hpc
        rw [← hc] at this
        exact this hd
      · simp at hs
    · simp at hs

/-- **N = 0** (`calc_bits(0) = 0`, mask 0, every word reads "0 of 0 decrements"): the word stays 0,
    nobody ever announces, sleeps or is woken, a wait's read leaves the thread idle (or exited), and
    every decrement is the "excess threads" exit – what the code does for `n_threads = 0`. -/
theorem C07_n0 (s : St) (h : Reachable (step 0) init s) :
    s.state = 0 ∧ s.q = [] ∧ (∀ t, s.pc t = .idle ∨ s.pc t = .dexit) ∧
    (∀ t v s', step 0 s (.waitRead t v) = some s' → s'.pc t = .idle ∨ s'.pc t = .dexit) ∧
    (∀ t v s', step 0 s (.decRead t v) = some s' → s'.pc t = .dexit) := by
  obtain ⟨hp, hst, hq⟩ := n0_reach s h
  have pcs : ∀ (s : St), (∀ t, n0Pc (s.pc t) = true) → ∀ t, s.pc t = .idle ∨ s.pc t = .dexit := by
    intro s hp t
    have := hp t
    revert this
    cases s.pc t <;> simp [n0Pc]
  refine ⟨hst, hq, pcs s hp, ?_, ?_⟩
  · intro t v s' hs
    have h' := reachable_step (step 0) init s s' _ h hs
    exact pcs s' (n0_reach s' h').1 t
  · intro t v s' hs
    have hd : ∀ v, decsOf 0 v = 0 := n0_case.2.2.1
    simp only [step, hd] at hs
    split at hs
    · simp at hs; subst hs; simp
    · simp at hs

/-- **no waiter is left sleeping (stuck-freedom).**  In a reachable state in which no operation is
    in flight and nobody is runnable (every thread is outside the counter's operations, asleep, or
    has exited), if `N` decrements have been performed nobody is asleep; and if fewer have been,
    every sleeper is in the queue and counted in the word, waiting for a decrement that has not
    been made yet. -/
theorem C07_no_stuck_sleeper (N : Nat) (s : St) (h : Reachable (step N) init s)
    (hq : ∀ t, s.pc t = .idle ∨ s.pc t = .asleep ∨ s.pc t = .dexit) :
    (s.ndec = N → ∀ t, s.pc t ≠ .asleep) ∧
    (s.ndec < N → (∀ t, s.pc t = .asleep ↔ t ∈ s.q) ∧ waitersOf N s.state = s.q.length) := by
  have hi := reach_inv N s h
  have hl : ∀ t, ldrPc (s.pc t) = false := by
    intro t; rcases hq t with e | e | e <;> simp [e, ldrPc]
  constructor
  · intro hN t
    exact ((C07_all_released N s h).2.2 hN hl).1 t |>.1
  · intro hlt
    have hd : decsOf N s.state < N := by rw [← hi.ndE]; exact hlt
    obtain ⟨hW, hwk, _, _, _⟩ := hi.pre hd
    have ha : s.anns = [] := by
      cases hal : s.anns with
      | nil => rfl
      | cons a r =>
        have := (hi.annM a).mp (by rw [hal]; simp)
        rcases hq a with e | e | e <;> simp [e, annPc] at this
    refine ⟨?_, by rw [hW, ha]; simp⟩
    intro t
    constructor
    · intro hpc
      rcases hi.asl t hpc with h | h
      · exact h
      · rw [hwk] at h; cases h
    · exact hi.qA t

/-! ### arithmetic of the packed word (proved in `Proofs/JcArith.lean`), re-exported -/

theorem C07_calc_bits (n : Nat) :
    n < 2 ^ calcBits n ∧ (calcBits n = 0 ∨ 2 ^ (calcBits n - 1) ≤ n) := calcBits_spec n

theorem C07_mask (n : Nat) :
    n &&& mask n = n ∧ (∀ s, s &&& mask n = s % 2 ^ calcBits n) ∧ (∀ s, s >>> calcBits n = s / 2 ^ calcBits n) :=
  mask_identity n

theorem C07_fields_independent (n s : Nat) :
    (decsOf n (s + 2 ^ calcBits n) = decsOf n s ∧ waitersOf n (s + 2 ^ calcBits n) = waitersOf n s + 1) ∧
    (decsOf n s < n → waitersOf n (s + 1) = waitersOf n s ∧ decsOf n (s + 1) = decsOf n s + 1) :=
  ⟨wait_step_fields n s, dec_step_fields n s⟩

theorem C07_bv64 (n w d : Nat) (h : Representable n w) (hd : d ≤ n) :
    let b := calcBits n
    let s : BitVec 64 := BitVec.ofNat 64 (pack b d w)
    let m : BitVec 64 := ((1#64) <<< b) - 1#64
    m.toNat = mask n ∧
    (s &&& m).toNat = d ∧ (s >>> b).toNat = w ∧ s.msb = false ∧
    (BitVec.ofNat 64 n &&& m).toNat = n ∧
    (Representable n (w + 1) → ((s + ((1#64) <<< b)) &&& m).toNat = d ∧ ((s + ((1#64) <<< b)) >>> b).toNat = w + 1) ∧
    (d < n → ((s + 1#64) &&& m).toNat = d + 1 ∧ ((s + 1#64) >>> b).toNat = w) :=
  bv64_fields n w d h hd

/-- N = 2, b = 2.  Waiter 10 sleeps before the first decrement; waiter 11 announces itself (word 9)
    **concurrently with the final decrement**: decrementer 2 replaces word 9 by 10 and must wake
    2 threads while 11 has not enqueued yet; waiter 12 read the word before the final decrement,
    loses its CAS, re-reads and returns. -/
def demoTrace : List Lbl :=
  [.waitRead 10 0, .waitCas 10 true, .blockBegin 10, .cbEnq 10, .decRead 1 4, .decCas 1 true,
   .waitRead 11 5, .waitRead 12 5, .waitCas 11 true, .decRead 2 9, .decCas 2 true, .waitCas 12 false,
   .wakeDeq 2 10, .wakeSpin 2, .blockBegin 11, .waitRead 12 10]

example : calcBits 2 = 2 := calcBits_examples.2.2.1

example : ∃ s, runs (step 2) init demoTrace = some s ∧ s.state = 10 ∧ s.q = [] ∧ s.anns = [11] ∧
    s.pc 2 = .ddeq 1 [10] ∧ s.pc 11 = .annSw ∧ s.pc 12 = .idle ∧ s.ndec = 2 ∧ s.rets = 1 := by
  have hb : calcBits 2 = 2 := calcBits_examples.2.2.1
  simp [demoTrace, runs, step, init, upd, decsOf, waitersOf, mask, hb]

/-- … and the release completes: 11 enqueues, is dequeued, both are pushed, both return -/
example : ∃ s, runs (step 2) init (demoTrace ++ [.cbEnq 11, .wakeDeq 2 11, .wakePush 2 10, .wakePush 2 11,
    .waitRead 11 10, .waitRead 10 10, .waitRead 13 10]) = some s ∧
    s.pushes = 2 ∧ s.rets = 4 ∧ s.q = [] ∧ s.wk = [] ∧ s.pc 2 = .idle ∧ s.pc 10 = .idle ∧ s.pc 11 = .idle := by
  have hb : calcBits 2 = 2 := calcBits_examples.2.2.1
  simp [demoTrace, runs, step, init, upd, decsOf, waitersOf, mask, hb]

/-- N = 0: wait returns at once, dec is "excess" -/
example : ∃ s, runs (step 0) init [.waitRead 1 0, .decRead 2 0, .waitRead 1 0] = some s ∧
    s.pc 1 = .idle ∧ s.pc 2 = .dexit ∧ s.rets = 2 := by
  have hb : calcBits 0 = 0 := calcBits_examples.1
  simp [runs, step, init, upd, decsOf, mask, hb]

end MythVerif.JoinCounter
