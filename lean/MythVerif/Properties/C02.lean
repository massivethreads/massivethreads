import MythVerif.Proofs.WsQueueSeq
import MythVerif.Proofs.WsQueueCor
import MythVerif.Proofs.WsQueueTsoBndAll
import MythVerif.Generated.Consts
/-! # C02 — runnable threads are never lost or duplicated by the work-stealing queues

Models: `Model/WsQueueSeq.lean` (sequential transcription of all operations),
`Model/WsQueue.lean` (SC machine: one owner, unboundedly many other participants, one program
counter per shared access, ghost abstract deque), `Model/WsQueueTso.lean` (x86-TSO machine).
Every theorem quantifies over every capacity `n` (the code's `INITIAL_QUEUE_SIZE`), every
history / interleaving and every number of participants. -/
namespace MythVerif.Wsq

/-- **Sequential refinement.**  For every capacity `n ≥ 2` and every sequential history of the
operations of `myth_wsqueue_func.h` (+ the two wsapi functions): the state stays well-formed
(all indices inside the storage, occupied slots hold threads) and, on the abstraction
`abs = slots [base, top)`, push = append, pop = remove last, take = remove first, put / pass =
cons at the base side, a declined take and both peeks = identity, re-centring = identity
(`OpSpec`); `abort()` is reached exactly by push / put on a full queue (`top == size ∧ base == 0`,
equivalently `|abs| = size`). -/
theorem C02_seq_refines_deque (n : Int) (hn : 2 ≤ n) (q : Q) (hq : Reachable seqStep (Q.init n) q) :
    WF q ∧ q.size = n ∧
    (∀ op, OpSpec q op (exec q op).1 (exec q op).2) ∧
    (∀ op, (exec q op).2 = .abort ↔ q.full ∧ ((∃ e, op = .push e) ∨ (∃ e, op = .put e))) ∧
    (q.full ↔ (q.abs.length : Int) = n) ∧
    (recentreDown q).abs = q.abs ∧ (recentreUp q).abs = q.abs := by
  obtain ⟨hw, hs⟩ := seq_reachable_wf n (by omega) q hq
  refine ⟨hw, hs, fun op => (exec_spec q op hw).1, abort_iff q, ?_, recentreDown_abs q, recentreUp_abs q⟩
  rw [← hs]; exact full_iff q hw

/-- **SC refinement.**  In every reachable state of the concurrent SC machine (any interleaving
of owner push/pop/put/clear with any number of concurrent take / wsapi-take / trypass / peek /
wsapi-peek, any capacity) the invariant of DESIGN A.2 holds; in particular the abstract deque
`A` – changed only at linearization points – is exactly the contents of the slots `[lb, lt)`,
inside the storage. -/
theorem C02_refines_deque_sc (n : Int) (hn : 2 ≤ n) (s : St) (h : Reachable step (init n) s) :
    Inv s ∧ (s.A.length : Int) = s.lt - s.lb ∧ (∀ k : Nat, k < s.A.length → s.ptr (s.lb + k) = s.A[k]?) ∧
    0 ≤ s.lb ∧ s.lt ≤ s.size := by
  have hi := reachable_inv n (by omega) s h
  exact ⟨hi, hi.len, hi.cont, hi.lb0, hi.lts⟩

/-- **No loss, no duplication (SC).**  If the inserted elements are pairwise distinct (a thread
descriptor is made runnable once at a time), then in every reachable state nothing was returned
twice, and the multiset of everything inserted equals deque contents + elements in flight
(removed at a linearization point, not yet returned) + everything returned. -/
theorem C02_no_loss_no_dup_sc (n : Int) (hn : 2 ≤ n) (s : St) (h : Reachable step (init n) s)
    (hd : s.ins.Nodup) :
    s.retd.Nodup ∧ (s.A ++ (s.flT.toList ++ (s.flO.toList ++ s.retd))).Perm s.ins :=
  no_loss_no_dup n (by omega) s h hd

/-- **Exactly once.**  Every inserted element is in exactly one place – still available in the
deque, in flight to exactly one worker, or already returned (once); in a quiescent state (no
operation in progress) it is either still in the slots `[base, top)` or was returned exactly
once: never forgotten, never handed to two workers. -/
theorem C02_exactly_once (n : Int) (hn : 2 ≤ n) (s : St) (h : Reachable step (init n) s)
    (hd : s.ins.Nodup) (e : Elem) (he : e ∈ s.ins) :
    s.A.count e + s.flT.toList.count e + s.flO.toList.count e + s.retd.count e = 1 ∧
    (s.opc = .idle → (∀ p, s.tpc p = .idle) →
      s.A.count e + s.retd.count e = 1 ∧ s.base = s.lb ∧ s.top = s.lt ∧ s.lock = .free) := by
  have h1 := exactly_once n (by omega) s h hd e he
  refine ⟨h1, ?_⟩
  intro ho ht
  obtain ⟨q1, q2, q3, q4, q5⟩ := quiescent_no_flight s (reachable_inv n (by omega) s h) ho ht
  rw [q1, q2] at h1
  simp at h1
  exact ⟨h1, q4, q5, q3⟩

/-- **A declined steal leaves the candidate available.**  When the decision callback of
`myth_wsapi_runqueue_take` is asked, the candidate it sees is the head of the deque; if it
declines, then after the roll-back and unlock the deque, the slots, `top`, and the returned /
inserted sets are exactly as before, `base` is back at the logical base and the lock is free. -/
theorem C02_decline_leaves_available (n : Int) (hn : 2 ≤ n) (s : St) (h : Reachable step (init n) s)
    (p : Pid) (b : Int) (r : Option Elem) (hpc : s.tpc p = .wkd b r) :
    r = s.A.head? ∧ s.A ≠ [] ∧
    ∃ s1 s2 s3, step s (.tDecide p false) = some s1 ∧ step s1 (.t p) = some s2 ∧ step s2 (.t p) = some s3 ∧
      s3.A = s.A ∧ s3.retd = s.retd ∧ s3.ins = s.ins ∧ s3.ptr = s.ptr ∧ s3.top = s.top ∧
      s3.base = s3.lb ∧ s3.lb = s.lb ∧ s3.lock = .free ∧ s3.tpc p = .idle :=
  decline_spec s (reachable_inv n (by omega) s h) p b r hpc

/-- **The owner's lock-free fast path is safe.**  While the owner is about to read slot `t`
without the lock, that slot holds the element removed from `A` at the linearization point, and
no other participant's pending claiming read (take, wsapi take, wsapi peek) or pending store
(pass) is at index `t` (they are all strictly below). -/
theorem C02_owner_fast_path_safe (n : Int) (hn : 2 ≤ n) (s : St) (h : Reachable step (init n) s)
    (t : Int) (x : Elem) (hpc : s.opc = .po3 t x) :
    s.ptr t = some x ∧ s.flO = some x ∧
    ∀ p i, slotT s p = some i → (∀ b, s.tpc p ≠ .pk3 b) → i < t :=
  fast_path_disjoint s (reachable_inv n (by omega) s h) t x hpc

/-- **Progress (owner).**  The owner's next step is always enabled (the model's ghost look-ups
never block it) unless it is idle or the process has aborted. -/
theorem C02_progress_owner (n : Int) (hn : 2 ≤ n) (s : St) (h : Reachable step (init n) s)
    (h1 : s.opc ≠ .idle) (h2 : s.opc ≠ .aborted) (h3 : s.opc ≠ .assertFail) :
    (step s .o).isSome = true :=
  progress_owner s (reachable_inv n (by omega) s h) h1 h2 h3

/-- **Progress (other participants).**  A participant inside an operation can always take its
next step; while it waits for the decision callback both verdicts can be delivered. -/
theorem C02_progress_thief (n : Int) (hn : 2 ≤ n) (s : St) (h : Reachable step (init n) s) (p : Pid)
    (h1 : s.tpc p ≠ .idle) :
    (∀ b r, s.tpc p = .wkd b r → ∀ a, (step s (.tDecide p a)).isSome = true) ∧
    ((∀ b r, s.tpc p ≠ .wkd b r) → (step s (.t p)).isSome = true) := by
  have hi := reachable_inv n (by omega) s h
  exact ⟨fun b r hpc a => progress_decide s hi p b r hpc a, fun h2 => progress_thief s hi p h1 h2⟩

/-- **The guards fire exactly at capacity.**  At push's overflow test `base == 0` holds iff the
deque holds `size` elements; at put's overflow test `top == size` holds iff it does; clear's
assertion `top == base` holds iff the deque is empty. -/
theorem C02_abort_only_when_full (n : Int) (hn : 2 ≤ n) (s : St) (h : Reachable step (init n) s) :
    (∀ e, s.opc = .pub e → (s.base = 0 ↔ (s.A.length : Int) = s.size)) ∧
    (∀ e, s.opc = .pt2 e → (s.top = s.size ↔ (s.A.length : Int) = s.size)) ∧
    (s.opc = .cl1 → (s.top = s.base ↔ s.A = [])) := by
  have hi := reachable_inv n (by omega) s h
  exact ⟨pub_abort_iff s hi, pt2_abort_iff s hi, cl1_assert_iff s hi⟩

/-- **Both storage boundaries.**  Every slot read or written by any participant's next step, and
both `memmove`s of the re-centring code, stay inside `[0, size)`. -/
theorem C02_slot_accesses_in_bounds (n : Int) (hn : 2 ≤ n) (s : St) (h : Reachable step (init n) s) :
    (∀ i, slotO s = some i → 0 ≤ i ∧ i < s.size) ∧
    (∀ p i, slotT s p = some i → 0 ≤ i ∧ i < s.size) ∧
    (∀ e off, s.opc = .pum e off → 0 ≤ s.base + off ∧ s.top + off ≤ s.size ∧ 0 ≤ s.base ∧ s.top ≤ s.size) ∧
    (∀ e off, s.opc = .pt3 e off → 0 ≤ s.base + off ∧ s.top + off ≤ s.size ∧ 0 ≤ s.base ∧ s.top ≤ s.size) := by
  have hi := reachable_inv n (by omega) s h
  exact ⟨slotO_in_bounds s hi, slotT_in_bounds s hi, (memmove_in_bounds s hi).1, (memmove_in_bounds s hi).2⟩

/-- The configuration the models encode is the configuration of the code (`Generated/Consts.lean`
is re-derived from /repo on every run): LIFO owner side, quick checks on pop and steal, Cilk-style
barriers (`myth_wbarrier` = compiler barrier, `myth_rbarrier`/`myth_rwbarrier` = `xchg`). -/
theorem C02_config_matches :
    Gen.queueLifo = 1 ∧ Gen.quickCheckOnPop = 1 ∧ Gen.quickCheckOnSteal = 1 ∧
    Gen.barrierKind = Gen.barrierCilk ∧ 2 ≤ Gen.initialQueueSize := by decide

/-! ## non-vacuity (SC machine): concrete reachable states meeting the hypotheses above -/

open Lbl in
/-- capacity 4: the owner pushes 7 and 8, thief 0 takes 7 while the owner pops 8 through the locked
    slow path (it saw the thief's transient `base+1`) -/
def exRace : List Lbl :=
  [oPush 7, o, o, o, oPush 8, o, o, o,
   tTake 0, t 0, t 0, t 0, t 0,
   oPop, o, o, o,
   t 0, t 0, t 0,
   o, o, o, o, o, o, o]

example : (runs step (init 4) exRace).map (fun s => (s.retd, s.A, s.top, s.base, s.ins)) =
    some ([8, 7], [], 3, 3, [8, 7]) := by decide
example : (runs step (init 4) exRace).map (fun s => decide s.ins.Nodup) = some true := by decide

open Lbl in
/-- capacity 4: three pushes reach `top == size` and re-centre (memmove by -1); `A` is unchanged by it -/
def exRecentre : List Lbl :=
  [oPush 1, o, o, o, oPush 2, o, o, o, tTake 0, t 0, t 0, t 0, t 0, t 0, t 0, t 0,
   oPush 3, o, o, o, o, o, o, o]

example : (runs step (init 4) exRecentre).map (fun s => (s.opc, s.A, s.lb, s.lt, s.top, s.base)) =
    some (.pu1 3 2, [2], 1, 2, 2, 1) := by decide

open Lbl in
/-- a state in which the decision callback is being asked (hypothesis of `C02_decline_leaves_available`) -/
def exDecide : List Lbl := [oPush 5, o, o, o, tWTake 1, t 1, t 1, t 1, t 1, t 1, t 1]

example : (runs step (init 4) exDecide).map (fun s => (s.tpc 1, s.A, s.tr)) =
    some (.wkd 2 (some 5), [5], true) := by decide

open Lbl in
/-- a state on the owner's lock-free fast path (hypothesis of `C02_owner_fast_path_safe`) with a thief
    holding the lock at the same time -/
def exFast : List Lbl :=
  [oPush 1, o, o, o, oPush 2, o, o, o, oPut 3, o, o, o, o, o,
   tTake 0, t 0, t 0, t 0, oPop, o, o, o]

example : (runs step (init 8) exFast).map (fun s => (s.opc, s.tpc 0, s.A)) =
    some (.po3 5 2, .tk1, [3, 1]) := by decide

end MythVerif.Wsq

namespace MythVerif.WsqTso
open MythVerif.Wsq (Elem Pid Holder)

/- What `C02_no_loss_no_dup_tso` states and about which machine:

     theorem C02_no_loss_no_dup_tso : for every reachable state of the x86-TSO machine running ALL
       queue operations (push with re-centring, pop, put with re-centring, clear, take, wsapi take
       with decision callback, trypass, peek, wsapi peek) with the fences of the source:
       retd.Nodup ∧ multiset(A) + in-flight + returned = multiset(inserted).

   Proved below, for every capacity, any number of other participants and every interleaving of
   program steps and store-buffer drains: the machine of `Model/WsQueueTso.lean`, i.e.
     * owner `push` WITH re-centring (at `top == size`: lock, `abort()` iff `base == 0`, else
       `memmove` down by `(-base-1)/2`, `top += offset`, `base += offset`, unlock, then the push
       proper), `pop` – fast path, locked slow path including the invalidation of the steal cache's
       pointer word (`if (top <= base) wc->ptr = NULL`), reset path – and `put` WITH re-centring (at
       `base == 0`: `abort()` iff `top == size`, else `memmove` up by `(size-top+1)/2`,
       `top += offset`, `base += offset`, then the insertion proper in the same locked section,
       no fence in between), and `clear` (lock, `myth_assert(top == base)` – a failure is the
       terminal program counter `assertFail` –, `base = size/2`, `top = base`, unlock);
     * any number of other participants, each running any sequence of `myth_queue_take`,
       `myth_queue_trypass` (trylock – a failure returns 0; `base == 0` returns 0; slot store,
       `base--`, unlock), `myth_queue_peek` (lock-free loads of `base`, `top`, one slot; nothing
       is removed and the value read is only a hint to the caller – nothing is claimed about it),
       `myth_wsapi_runqueue_take` (trylock – a failure returns NULL; `base++`, fence, comparison,
       slot read, decision callback as a separate label with either verdict: accept = linearization
       point, then `wc->ptr = NULL`, unlock; decline = roll-back of `base`, unlock) and the caching
       `myth_wsapi_runqueue_peek` (cache test, trylock – a failure restarts; second cache test,
       `base++`, fence, comparison, slot read, `wc->ptr = th`, roll-back, unlock, return of the
       cached word as a hint).  Of the steal cache only the pointer word is modelled, as under SC.
   put and trypass linearize when their `base` store DRAINS (the slot store precedes it in the same
   FIFO buffer), for trypass possibly while the owner is inside a lock-free push or pop.
   A re-centring `memmove` is ONE buffer entry (`Sto.shift`); the header of the model file says why
   that loses nothing: slots are loaded only under the lock (excluded until the owner's unlock fence
   has drained everything), by the owner (store forwarding) or by peek (value not recorded), and
   the lock-free loads of `top` / `base` (quick checks, peek) may see the half-updated pair – their
   values are unconstrained in the invariant (`exRcHint` below exhibits such a read).  The two
   `abort()`s (`stuck`, `stuckL`) happen only on a full deque.
   That is every operation of `myth_wsqueue_func.h` plus the two queue functions of
   `myth_if_native.c`; `myth_queue_pass` is the caller's retry loop around trypass (labels
   `tPass` in sequence), `myth_queue_init` is `init`.  Not modelled: of the steal cache anything but
   its pointer word (`seq`, `size`, `data`: the advisory copy of the hint), the signal-safety flag
   `op_flag` and the optional `USE_LOCK*` / `USE_THREAD_CS` mutexes (compiled out in the verified
   configuration, `C02_config_matches`).  Modelling simplifications: the releasing store of unlock
   is performed on memory right after its fence (DESIGN A.3); a re-centring `memmove` is one buffer
   entry (justified in the header of the model file).  Granularity: one program counter per shared
   access, with the mergers of the SC model (a lock holder's `b = q->base; q->base = b±1`, the
   owner's `top = q->top - 1; q->top = top`, `q->base += offset; t = q->top`); pop's test
   `if (top <= base)` compares two locals – the model re-reads the owner's view of `base` instead,
   which is the value loaded at `po4` (the owner holds the lock and has no `base` store pending). -/

/-- **No loss, no duplication under x86-TSO store buffering (all queue operations).**
In every reachable state of the store-buffer machine with the fences of the source, for every
capacity, the owner running any sequence of push / pop / put / clear and any number of other
participants (each running take, wsapi take, trypass, peek or wsapi peek, in any order, the decision
callback answering either way):
the TSO invariant holds (buffer shapes, memory-side window `[lb, mem.top)` = prefix of `A`,
`mem.base = lb (+1 while a thief's increment is visible)`), every value returned equals the element
removed at the linearization point, nothing is returned twice, and inserted = deque + in flight +
returned as multisets; the three fall-back branches of the model's ghost look-ups are unreachable;
in a quiescent drained state memory `[base, top)` holds exactly the threads not yet resumed; a
pending inserting `base` store (put, trypass) belongs to the lock holder just before its unlock,
targets the slot below the logical base (as the issuing participant sees it: `lb + sh`, where
`sh ≠ 0` only while the shift entry of put's own re-centring is still buffered in front), and the
buffer's view of that slot is the element it will insert when it drains; the overflow tests
`base == 0` of put and trypass read the logical base; `abort()` ("Runqueue overflow") is reached
only when the deque holds `size` elements (`lb = 0`, `lt = size`), and the tests that guard it read
the logical values; while the decision callback of wsapi take is asked the candidate is the head of
the (non-empty) deque, and if it declines, then after the roll-back store, its drain and the unlock
the deque, the slots, `top` and the returned / inserted lists are as before, `base` is the logical
base again and the lock is free; clear's assertion `top == base` reads the logical values and holds
exactly when the deque is empty. -/
theorem C02_no_loss_no_dup_tso (n : Int) (s : St) (h : Reachable step (init FenceCfg.code n) s) :
    Inv s ∧
    (s.ins.Nodup → s.retd.Nodup ∧ (s.A ++ (s.flT.toList ++ (s.flO.toList ++ s.retd))).Perm s.ins) ∧
    ((∀ t, s.opc = .po2 t → viewBase s.bufO s.base + 1 < t → s.A.getLast? ≠ none) ∧
     (∀ t, s.opc = .po4 t → viewBase s.bufO s.base ≤ t → s.A.getLast? ≠ none) ∧
     (∀ p b, s.tpc p = .tk2 b → b < viewTop (s.bufT p) s.top → s.A ≠ [])) ∧
    (s.opc = .idle → (∀ p, s.tpc p = .idle) → s.bufO = [] →
      s.flO = none ∧ s.flT = none ∧ s.lock = .free ∧ s.base = s.lb ∧ s.top = s.lt ∧
      (∀ k : Nat, k < s.A.length → s.ptr (s.base + k) = s.A[k]?) ∧ (s.A.length : Int) = s.top - s.base) ∧
    ((∀ v e, Sto.baseI v e ∈ s.bufO →
        s.opc = .pt9 ∧ s.lock = .owner ∧ v = s.lb + s.sh - 1 ∧ viewPtr s.bufO s.ptr v = some e) ∧
     (∀ p v e, Sto.baseI v e ∈ s.bufT p →
        (∃ ok, s.tpc p = .tp4 ok) ∧ s.lock = .thief p ∧ v = s.lb - 1 ∧ viewPtr (s.bufT p) s.ptr v = some e)) ∧
    ((∀ e, s.opc = .pt1 e → viewBase s.bufO s.base = s.lb) ∧
     (∀ p e, s.tpc p = .tp1 e → viewBase (s.bufT p) s.base = s.lb)) ∧
    ((s.opc = .stuck ∨ s.opc = .stuckL →
        (s.A.length : Int) = s.size ∧ s.lb = 0 ∧ s.lt = s.size ∧ s.top = s.size ∧ s.base = 0 ∧
        s.lock = .owner ∧ s.bufO = []) ∧
     (∀ e, s.opc = .pub e → viewBase s.bufO s.base = s.lb ∧ s.lt = s.size) ∧
     (∀ e, s.opc = .pt2 e → viewTop s.bufO s.top = s.lt ∧ s.lb = 0)) ∧
    (∀ p b r, s.tpc p = .wkd b r →
      r = s.A.head? ∧ s.A ≠ [] ∧
      ∃ s1 s2 s3 s4, step s (.tDecide p false) = some s1 ∧ step s1 (.t p) = some s2 ∧
        step s2 (.flushT p) = some s3 ∧ step s3 (.t p) = some s4 ∧
        s4.A = s.A ∧ s4.retd = s.retd ∧ s4.ins = s.ins ∧ s4.ptr = s.ptr ∧ s4.top = s.top ∧
        s4.base = s4.lb ∧ s4.lb = s.lb ∧ s4.lock = .free ∧ s4.tpc p = .idle ∧ s4.bufT p = []) ∧
    (s.opc = .cl1 → (viewTop s.bufO s.top = viewBase s.bufO s.base ↔ s.A = []) ∧
      viewTop s.bufO s.top = s.lt ∧ viewBase s.bufO s.base = s.lb) := by
  have hi := reachable_inv n s h
  obtain ⟨g1, g2, g3, _⟩ := ghost_branches_unreachable s hi
  exact ⟨hi, no_loss_no_dup n s h, ⟨g1, g2, g3⟩, quiescent_mem s hi,
    ⟨owner_baseI s hi, thief_baseI s hi⟩, base_tests_logical s hi,
    ⟨stuck_only_when_full s hi, (overflow_tests_logical s hi).1, (overflow_tests_logical s hi).2⟩,
    decline_spec s hi, cl1_assert_iff s hi⟩

/-- **Both storage boundaries and the overflow guards under x86-TSO** (TSO analogue of
`C02_abort_only_when_full` and of `C02_slot_accesses_in_bounds`; capacities `0 ≤ n`).  In every reachable state the bounds invariant `Bnd` holds: the logical window – and the
owner's view of it while the shift entry of a re-centring is still buffered – lies inside
`[0, size]`; the `myth_assert`s of the re-centring and insertion code hold (`offset < 0` in push,
`offset > 0` in put, `t < size`, `b > 0`); every slot store of push / put / trypass / pop goes to an
index inside `[0, size)`; push's test `base == 0` (at `top == size`) and put's test `top == size` (at
`base == 0`) fire exactly when the deque holds `size` elements; the memory values of `base` and `top`
stay inside `[0, ..)` / `(.., size]` at every moment – also in the middle of a re-centring, when
they are a half-updated pair – so that every slot LOAD, including the one of the lock-free
`myth_queue_peek` that may have read such a pair, is at an index inside `[0, size)`. -/
theorem C02_bounds_tso (n : Int) (hn : 0 ≤ n) (s : St) (h : Reachable step (init FenceCfg.code n) s) :
    Bnd s ∧
    (0 ≤ s.lb ∧ s.lt ≤ s.size ∧ 0 ≤ s.lb + s.sh ∧ s.lt + s.sh ≤ s.size) ∧
    ((∀ e off, s.opc = .pum e off → off < 0 ∧ 0 ≤ viewBase s.bufO s.base + off) ∧
     (∀ e off, s.opc = .pt3 e off → 0 < off ∧ viewTop s.bufO s.top + off ≤ s.size)) ∧
    ((∀ e t, s.opc = .pu1 e t → 0 ≤ t ∧ t < s.size) ∧
     (∀ e b, s.opc = .pt7 e b → 0 ≤ b - 1 ∧ b - 1 < s.size) ∧
     (∀ p e b, s.tpc p = .tp2 e b → 0 ≤ b - 1 ∧ b - 1 < s.size)) ∧
    ((∀ e, s.opc = .pub e → (viewBase s.bufO s.base = 0 ↔ (s.A.length : Int) = s.size)) ∧
     (∀ e, s.opc = .pt2 e → (viewTop s.bufO s.top = s.size ↔ (s.A.length : Int) = s.size))) ∧
    (0 ≤ s.base ∧ s.top ≤ s.size) ∧
    ((∀ p b, s.tpc p = .pk3 b → 0 ≤ b ∧ b < s.size) ∧
     (∀ p b x, s.tpc p = .tk3 b x → 0 ≤ b ∧ b < s.size) ∧
     (∀ p b, s.tpc p = .wk3 b → 0 ≤ b ∧ b < s.size) ∧
     (∀ p b, s.tpc p = .vk3 b → 0 ≤ b ∧ b < s.size) ∧
     (∀ t x, s.opc = .po3 t x → 0 ≤ t ∧ t < s.size) ∧
     (∀ t x, s.opc = .po5 t x → 0 ≤ t ∧ t < s.size) ∧
     (∀ t r, s.opc = .po5b t r → 0 ≤ t ∧ t < s.size)) := by
  obtain ⟨hi, hb⟩ := reachable_bnd n hn s h
  have hlen := hi.len
  have h0 := hb.lb0
  have h1 := hb.lts
  have h2 := hb.lbv
  have h3 := hb.ltv
  refine ⟨hb, ⟨h0, h1, h2, h3⟩, ⟨?_, ?_⟩, ⟨?_, ?_, ?_⟩, abort_iff_full s hi hb, ⟨hb.base0, hb.tops⟩,
    hb.pk3, ?_, ?_, ?_, ?_, hb.po5, hb.po5b⟩
  rotate_left 5
  · intro p b x hpc
    have := hi.tk3 p b x hpc
    have := hb.tk3 p b x hpc
    omega
  · intro p b hpc
    obtain ⟨e1, _, e3, _⟩ := hi.wk3 p b hpc
    have : 0 < s.A.length := List.length_pos_iff.2 e3
    omega
  · intro p b hpc
    have := hi.vk3 p b hpc
    have := hb.vk3 p b hpc
    omega
  · intro t x hpc
    have := hi.po3 t x hpc
    have := hb.po3 t x hpc
    omega
  · intro e off hpc
    obtain ⟨hv, _⟩ := (owner_views s hi).2.2.2.1 e off hpc
    have := hb.pum e off hpc
    rw [hv]; exact this
  · intro e off hpc
    obtain ⟨_, hv⟩ := (owner_views s hi).2.2.2.2 e off hpc
    have := hb.pt3 e off hpc
    rw [hv]; exact ⟨this.1, this.2.1⟩
  · intro e t hpc
    have := hi.pu1 e t hpc
    have := hb.pu1 e t hpc
    omega
  · intro e b hpc
    have := (hi.pt7 e b hpc).1
    have := hb.pt7 e b hpc
    omega
  · intro p e b hpc
    have := hi.tp2 p e b hpc
    have := hb.tp2 p e b hpc
    omega

/-- `C02_no_loss_no_dup_tso` under the name DESIGN §4 reserves for a version restricted to part of
the operations; the statement is the full one. -/
theorem C02_no_loss_no_dup_tso_partial (n : Int) (s : St) (h : Reachable step (init FenceCfg.code n) s) :
    Inv s ∧
    (s.ins.Nodup → s.retd.Nodup ∧ (s.A ++ (s.flT.toList ++ (s.flO.toList ++ s.retd))).Perm s.ins) ∧
    ((∀ t, s.opc = .po2 t → viewBase s.bufO s.base + 1 < t → s.A.getLast? ≠ none) ∧
     (∀ t, s.opc = .po4 t → viewBase s.bufO s.base ≤ t → s.A.getLast? ≠ none) ∧
     (∀ p b, s.tpc p = .tk2 b → b < viewTop (s.bufT p) s.top → s.A ≠ [])) ∧
    (s.opc = .idle → (∀ p, s.tpc p = .idle) → s.bufO = [] →
      s.flO = none ∧ s.flT = none ∧ s.lock = .free ∧ s.base = s.lb ∧ s.top = s.lt ∧
      (∀ k : Nat, k < s.A.length → s.ptr (s.base + k) = s.A[k]?) ∧ (s.A.length : Int) = s.top - s.base) ∧
    ((∀ v e, Sto.baseI v e ∈ s.bufO →
        s.opc = .pt9 ∧ s.lock = .owner ∧ v = s.lb + s.sh - 1 ∧ viewPtr s.bufO s.ptr v = some e) ∧
     (∀ p v e, Sto.baseI v e ∈ s.bufT p →
        (∃ ok, s.tpc p = .tp4 ok) ∧ s.lock = .thief p ∧ v = s.lb - 1 ∧ viewPtr (s.bufT p) s.ptr v = some e)) ∧
    ((∀ e, s.opc = .pt1 e → viewBase s.bufO s.base = s.lb) ∧
     (∀ p e, s.tpc p = .tp1 e → viewBase (s.bufT p) s.base = s.lb)) ∧
    ((s.opc = .stuck ∨ s.opc = .stuckL →
        (s.A.length : Int) = s.size ∧ s.lb = 0 ∧ s.lt = s.size ∧ s.top = s.size ∧ s.base = 0 ∧
        s.lock = .owner ∧ s.bufO = []) ∧
     (∀ e, s.opc = .pub e → viewBase s.bufO s.base = s.lb ∧ s.lt = s.size) ∧
     (∀ e, s.opc = .pt2 e → viewTop s.bufO s.top = s.lt ∧ s.lb = 0)) ∧
    (∀ p b r, s.tpc p = .wkd b r →
      r = s.A.head? ∧ s.A ≠ [] ∧
      ∃ s1 s2 s3 s4, step s (.tDecide p false) = some s1 ∧ step s1 (.t p) = some s2 ∧
        step s2 (.flushT p) = some s3 ∧ step s3 (.t p) = some s4 ∧
        s4.A = s.A ∧ s4.retd = s.retd ∧ s4.ins = s.ins ∧ s4.ptr = s.ptr ∧ s4.top = s.top ∧
        s4.base = s4.lb ∧ s4.lb = s.lb ∧ s4.lock = .free ∧ s4.tpc p = .idle ∧ s4.bufT p = []) ∧
    (s.opc = .cl1 → (viewTop s.bufO s.top = viewBase s.bufO s.base ↔ s.A = []) ∧
      viewTop s.bufO s.top = s.lt ∧ viewBase s.bufO s.base = s.lb) :=
  C02_no_loss_no_dup_tso n s h

/-! non-vacuity (TSO machine): the owner pushes 1, 2, 3 (capacity 8) with the stores of the last
    push still buffered, starts a pop (its `top` store buffered behind them), and a thief takes
    element 1 meanwhile, reading the stale `top` from memory -/
open Lbl in
def exTso : List Lbl :=
  [oPush 1, o, o, o, o, flushO, flushO, oPush 2, o, o, o, o, flushO, flushO, oPush 3, o, o, o, o,
   oPop, o, o,
   tTake 0, t 0, t 0, t 0, t 0, flushT 0, t 0, t 0, t 0, t 0,
   flushO, flushO, flushO, o, o, o, o, o, o, o, flushO, o]

example : (runs step (init FenceCfg.code 8) exTso).map
    (fun s => (s.retd, s.A, s.top, s.base, s.bufO)) = some ([3, 1], [2], 6, 5, []) := by decide
example : (runs step (init FenceCfg.code 8) exTso).map (fun s => decide s.ins.Nodup) = some true := by decide

/-! a thief's take races an owner put for the slot at `base`: the owner (capacity 8, element 1 pushed
    and drained) runs `put 2` up to its unlock with the slot store and the `base` store still
    buffered; thief 0 passes its quick check on the stale `base` and spins on the lock; the two
    stores drain (the second drain is put's linearization point), the owner unlocks, the thief
    takes 2 – the element put at the base side – and 1 stays in the deque -/
open Lbl in
def exPutRacePre : List Lbl :=
  [oPush 1, o, o, o, o, flushO, flushO,
   oPut 2, o, o, o, o, o,
   tTake 0, t 0, t 0, t 0]

open Lbl in
def exPutRace : List Lbl :=
  exPutRacePre ++
  [flushO, flushO, o,
   t 0, t 0, flushT 0, t 0, t 0, t 0, t 0]

/-- the racing state: both stores buffered, nothing inserted yet, the thief at the lock -/
example : (runs step (init FenceCfg.code 8) exPutRacePre).map
    (fun s => (s.opc, s.tpc 0, s.bufO, s.base, s.lb)) =
    some (.pt9, .tkl, [.ptr 3 (some 2), .baseI 3 2], 4, 4) := by decide
example : (runs step (init FenceCfg.code 8) exPutRacePre).map (fun s => (s.A, s.ins, s.lock)) =
    some ([1], [1], .owner) := by decide
example : (runs step (init FenceCfg.code 8) exPutRace).map
    (fun s => (s.retd, s.A, s.top, s.base, s.bufO)) = some ([2], [1], 5, 4, []) := by decide
example : (runs step (init FenceCfg.code 8) exPutRace).map (fun s => (s.lock, s.ins, s.lb)) =
    some (.free, [2, 1], 4) := by decide

open Lbl in
/-- put on an empty deque, then pop returns the element through the locked slow path -/
def exPutPop : List Lbl :=
  [oPut 5, o, o, o, o, o, flushO, flushO, o,
   oPop, o, o, flushO, o, o, o, o, o, o, o, o, flushO, flushO, o]

example : (runs step (init FenceCfg.code 8) exPutPop).map
    (fun s => (s.retd, s.A, s.top, s.base, s.bufO)) = some ([5], [], 3, 3, []) := by decide
example : (runs step (init FenceCfg.code 8) exPutPop).map (fun s => (s.opc, s.ins)) =
    some (.idle, [5]) := by decide

/-! push re-centres (capacity 4): 1, 2 pushed (`top = 4 = size`), thief 0 took 1 (`base = 3`); push 3
    locks, `offset = (-3-1)/2 = -2`, and issues the memmove, `top = 2`, `base = 1` – all three still
    buffered at the unlock while thief 1 (quick check passed on the old `top`/`base`) spins at the
    lock; they drain, the owner unlocks and finishes the push, thief 1 takes 2 from the moved window -/
open Lbl in
def exRcPre : List Lbl :=
  [oPush 1, o, o, o, o, flushO, flushO, oPush 2, o, o, o, o, flushO, flushO,
   tTake 0, t 0, t 0, t 0, t 0, flushT 0, t 0, t 0, t 0, t 0,
   oPush 3, o, o, o, o, o, o, o,
   tTake 1, t 1, t 1, t 1]

open Lbl in
def exRc : List Lbl :=
  exRcPre ++
  [flushO, flushO, flushO, o, o, o,
   t 1, t 1, flushT 1, t 1, t 1, t 1, t 1, flushO, flushO]

example : (runs step (init FenceCfg.code 4) exRcPre).map
    (fun s => (s.opc, s.tpc 1, s.bufO, s.lb, s.lt)) =
    some (.pux 3 2, .tkl, [.shift 3 4 (-2), .top 2, .base 1], 3, 4) := by decide
example : (runs step (init FenceCfg.code 4) exRcPre).map (fun s => (s.sh, s.A, s.top, s.base, s.lock)) =
    some (-2, [2], 4, 3, .owner) := by decide
example : (runs step (init FenceCfg.code 4) exRc).map
    (fun s => (s.retd, s.A, s.top, s.base, s.bufO)) = some ([2, 1], [3], 3, 2, []) := by decide
example : (runs step (init FenceCfg.code 4) exRc).map (fun s => (s.ptr 2, s.lb, s.lt, s.sh, s.lock)) =
    some (some 3, 2, 3, 0, .free) := by decide

open Lbl in
/-- a lock-free quick check in the middle of that re-centring (shift and `top` drained, `base` not
    yet) reads `top = 2`, `base = 3` and reports "empty" although the deque holds 2: a hint only -/
def exRcHint : List Lbl := exRcPre ++ [flushO, flushO, tTake 2, t 2, t 2]

example : (runs step (init FenceCfg.code 4) exRcHint).map
    (fun s => (s.tpc 2, s.top, s.base, s.A, s.bufO)) = some (.idle, 2, 3, [2], [.base 1]) := by decide

/-! put re-centres (capacity 4): 1 and 2 were put (`base = 0`, `top = 2`); put 3 finds `base == 0`,
    `offset = (4-2+1)/2 = 1`; at its unlock the buffer holds all five stores – memmove, `top`, `base`,
    the slot and the inserting `base` store; a fourth put re-centres again and fills the queue; the
    fifth reaches `abort()` (`stuckL`) on the full deque -/
open Lbl in
def exPutRcPre : List Lbl :=
  [oPut 1, o, o, o, o, o, flushO, flushO, o,
   oPut 2, o, o, o, o, o, flushO, flushO, o,
   oPut 3, o, o, o, o, o, o, o, o, o]

example : (runs step (init FenceCfg.code 4) exPutRcPre).map (fun s => (s.opc, s.bufO, s.lb, s.sh)) =
    some (.pt9, [.shift 0 2 1, .top 3, .base 1, .ptr 0 (some 3), .baseI 0 3], 0, 1) := by decide

open Lbl in
def exPutRc : List Lbl := exPutRcPre ++ [flushO, flushO, flushO, flushO, flushO, o]

example : (runs step (init FenceCfg.code 4) exPutRc).map
    (fun s => (s.A, s.top, s.base, s.bufO, s.opc)) = some ([3, 2, 1], 3, 0, [], .idle) := by decide
example : (runs step (init FenceCfg.code 4) exPutRc).map (fun s => (s.ptr 0, s.ptr 1, s.ptr 2, s.lb, s.lt)) =
    some (some 3, some 2, some 1, 0, 3) := by decide

open Lbl in
def exPutFull : List Lbl :=
  exPutRc ++ [oPut 4, o, o, o, o, o, o, o, o, o, flushO, flushO, flushO, flushO, flushO, o,
              oPut 5, o, o, o]

example : (runs step (init FenceCfg.code 4) exPutFull).map (fun s => (s.opc, s.lock, s.A, s.top, s.base)) =
    some (.stuckL, .owner, [4, 3, 2, 1], 4, 0) := by decide

open Lbl in
/-- push's `abort()`: capacity 2, one push fills `[1, 2)`, a put fills slot 0, the next push finds
    `top == size` and `base == 0` -/
example : (runs step (init FenceCfg.code 2)
    [oPush 1, o, o, o, o, flushO, flushO, oPut 2, o, o, o, o, o, flushO, flushO, o, oPush 3, o, o, o, o]).map
    (fun s => (s.opc, s.lock, s.A, s.top, s.base)) = some (.stuck, .owner, [2, 1], 2, 0) := by decide


/-! trypass races the owner's lock-free pop: elements 1, 2, 3 pushed and drained (capacity 8);
    passer 0 runs `trypass 9` up to its unlock with both stores buffered while the owner pops 3 on
    the fast path reading the stale `base`; the stores drain (the second drain inserts 9), thief 1
    then takes 9 -/
open Lbl in
def exPassPre : List Lbl :=
  [oPush 1, o, o, o, o, flushO, flushO, oPush 2, o, o, o, o, flushO, flushO, oPush 3, o, o, o, o, flushO, flushO,
   tPass 0 9, t 0, t 0, t 0, t 0, t 0,
   oPop, o, o, flushO, o, o]

open Lbl in
def exPass : List Lbl :=
  exPassPre ++
  [o, flushT 0, flushT 0, t 0,
   tTake 1, t 1, t 1, t 1, t 1, flushT 1, t 1, t 1, t 1, t 1]

example : (runs step (init FenceCfg.code 8) exPassPre).map
    (fun s => (s.opc, s.tpc 0, s.bufT 0, s.base, s.A)) =
    some (.po3 6 3, .tp4 true, [.ptr 3 (some 9), .baseI 3 9], 4, [1, 2]) := by decide
example : (runs step (init FenceCfg.code 8) exPass).map
    (fun s => (s.retd, s.A, s.top, s.base, s.lock)) = some ([9, 3], [1, 2], 6, 4, .free) := by decide
example : (runs step (init FenceCfg.code 8) exPass).map (fun s => (s.ins, decide s.ins.Nodup)) =
    some ([9, 3, 2, 1], true) := by decide

open Lbl in
/-- a peek while the passer's stores are buffered sees the stale `base` and aims at slot 4 (the old
    head); it changes nothing -/
example : (runs step (init FenceCfg.code 8) (exPassPre ++ [tPeek 2, t 2, t 2, t 2, t 2])).map
    (fun s => (s.tpc 2, s.bufT 0, s.A, s.retd)) =
    some (.pk3 4, [.ptr 3 (some 9), .baseI 3 9], [1, 2], []) := by decide

open Lbl in
/-- trypass into the very slot an owner's slow-path pop is aimed at: the owner pushed 1 and started a
    pop, thief 1 took 1, the owner (its `top = 4` drained, deque empty, `base = 5 > top`) waits for
    the lock that passer 0 holds; the pass stores slot 4 and `base = 4`; after its unlock the owner
    finds `base <= top` and pops 9 -/
def exPassSlow : List Lbl :=
  [oPush 1, o, o, o, o, flushO, flushO,
   oPop, o,
   tTake 1, t 1, t 1, t 1, t 1, flushT 1, t 1, t 1, t 1, t 1,
   o, flushO, o, o,
   tPass 0 9, t 0, t 0, t 0, t 0, t 0,
   o, flushT 0, flushT 0, t 0,
   o, o, o, o, o, o, flushO, flushO, o]

example : (runs step (init FenceCfg.code 8) exPassSlow).map
    (fun s => (s.retd, s.A, s.top, s.base, s.opc)) = some ([9, 1], [], 4, 4, .idle) := by decide

open Lbl in
/-- a failed trylock (the owner holds the lock inside put) returns without inserting; at
    `base == 0` trypass returns 0 under the lock -/
example : (runs step (init FenceCfg.code 8) [oPut 2, o, tPass 0 9, t 0]).map
    (fun s => (s.tpc 0, s.lock, s.A, s.ins)) = some (.idle, .owner, [], []) := by decide
open Lbl in
example : (runs step (init FenceCfg.code 1) [tPass 0 9, t 0, t 0]).map
    (fun s => (s.tpc 0, s.bufT 0, s.A)) = some (.tp4 false, [], []) := by decide


/-! wsapi take with a declining callback (capacity 8, element 5 pushed and drained): participant 1
    trylocks, increments `base` (drained by its fence), reads slot 4 and asks the callback; on a
    decline the roll-back store is buffered, drains, and the unlock leaves everything as it was; on
    an accept 5 is returned and the cache word is cleared -/
open Lbl in
def exDecidePre : List Lbl :=
  [oPush 5, o, o, o, o, flushO, flushO,
   tWTake 1, t 1, t 1, t 1, t 1, flushT 1, t 1, t 1, t 1]

example : (runs step (init FenceCfg.code 8) exDecidePre).map (fun s => (s.tpc 1, s.A, s.tr, s.base, s.lock)) =
    some (.wkd 4 (some 5), [5], true, 5, .thief 1) := by decide

open Lbl in
example : (runs step (init FenceCfg.code 8) (exDecidePre ++ [tDecide 1 false, t 1])).map
    (fun s => (s.tpc 1, s.bufT 1, s.base, s.tr)) = some (.wk6, [.base 4], 5, true) := by decide
open Lbl in
example : (runs step (init FenceCfg.code 8) (exDecidePre ++ [tDecide 1 false, t 1, flushT 1, t 1])).map
    (fun s => (s.tpc 1, s.A, s.retd, s.base, s.lock)) = some (.idle, [5], [], 4, .free) := by decide
open Lbl in
example : (runs step (init FenceCfg.code 8) (exDecidePre ++ [tDecide 1 true, t 1, flushT 1, t 1])).map
    (fun s => (s.tpc 1, s.A, s.retd, s.base, s.lock)) = some (.idle, [], [5], 5, .free) := by decide

/-! wsapi peek fills the cache word (stores of the cache word and of the roll-back buffered together),
    the owner's slow-path pop of the last element clears it again -/
open Lbl in
def exWPeekPre : List Lbl :=
  [oPush 5, o, o, o, o, flushO, flushO,
   tWPeek 2, t 2, t 2, t 2, t 2, t 2, t 2, flushT 2, t 2, t 2, t 2, t 2, t 2]

example : (runs step (init FenceCfg.code 8) exWPeekPre).map (fun s => (s.tpc 2, s.bufT 2, s.cache, s.A)) =
    some (.vu, [.cache (some 5), .base 4], none, [5]) := by decide

open Lbl in
def exWPeek : List Lbl :=
  exWPeekPre ++ [flushT 2, flushT 2, t 2, t 2]

example : (runs step (init FenceCfg.code 8) exWPeek).map (fun s => (s.tpc 2, s.cache, s.A, s.base, s.lock)) =
    some (.idle, some 5, [5], 4, .free) := by decide

open Lbl in
example : (runs step (init FenceCfg.code 8)
    (exWPeek ++ [oPop, o, o, flushO, o, o, o, o, o, o, o, o, flushO, flushO, o])).map
    (fun s => (s.opc, s.retd, s.cache, s.A, s.bufO)) = some (.idle, [5], none, [], []) := by decide


/-! clear: 1 was pushed and taken (`top = base = 5`); clear re-centres the empty queue to `size/2`
    – both stores buffered at its unlock –; on a non-empty queue its assertion fails -/
open Lbl in
def exClearPre : List Lbl :=
  [oPush 1, o, o, o, o, flushO, flushO,
   tTake 0, t 0, t 0, t 0, t 0, flushT 0, t 0, t 0, t 0, t 0,
   oClear, o, o, o]

example : (runs step (init FenceCfg.code 8) exClearPre).map
    (fun s => (s.opc, s.bufO, s.top, s.base, s.lb)) = some (.cl3, [.base 4, .top 4], 5, 5, 4) := by decide
open Lbl in
example : (runs step (init FenceCfg.code 8) (exClearPre ++ [flushO, flushO, o])).map
    (fun s => (s.opc, s.top, s.base, s.lock, s.retd)) = some (.idle, 4, 4, .free, [1]) := by decide
open Lbl in
example : (runs step (init FenceCfg.code 8) [oPush 1, o, o, o, o, flushO, flushO, oClear, o, o]).map
    (fun s => (s.opc, s.lock, s.A)) = some (.assertFail, .owner, [1]) := by decide

end MythVerif.WsqTso
