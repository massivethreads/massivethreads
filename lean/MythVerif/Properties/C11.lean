import MythVerif.Proofs.Tls
/-!
# C11 — thread-specific data destructors run exactly once for a non-NULL value, with that value

Model: `MythVerif.Tls` (`myth_tls_tree_fini` = destructor walk, then teardown walk) over an
arbitrary geometry `g`; `geo`, regenerated from `myth_tls.h`, is one instance.  The theorems are about `fixedWalk`, the walk of the
current source; `pinnedWalk` is the walk of the pinned snapshot, kept with its refutation.
Quantification: every geometry, every sequence of `set` operations a thread performed (hence
every subset of keys, every value), every key table.
-/
namespace MythVerif.Tls

/-- the tree a thread has built after an arbitrary sequence of `myth_setspecific` calls -/
def treeOf (g : Geo) (ops : List (Int × Val)) : Tree :=
  ops.foldl (fun t op => (set g t op.1 op.2).1) none

/-- every tree a thread can build is well typed (helper, used by all theorems below) -/
theorem treeOf_WT (g : Geo) (ops : List (Int × Val)) : TreeWT g (treeOf g ops) := by
  unfold treeOf
  suffices h : ∀ (t : Tree), TreeWT g t →
      TreeWT g (ops.foldl (fun t op => (set g t op.1 op.2).1) t) from h none trivial
  induction ops with
  | nil => intro t h; exact h
  | cons op ops ih => intro t h; exact ih _ (set_WT g t _ _ h)

/-- the destructor calls made at thread exit, in order -/
def exitCalls (g : Geo) (w : Walk) (dt : Dtors) (t : Tree) : List Ev :=
  match t with
  | none => []
  | some n => callRec g w dt g.depth n 0 g.nKeys

/-- **exact characterisation**: at exit the walk makes one call per key `k < nKeys` that has a
    destructor and whose leaf is allocated, with the value the thread reads under `k`, in key
    order — and nothing else (no out-of-table read, no other call). -/
theorem C11_calls_exact (g : Geo) (dt : Dtors) (ops : List (Int × Val)) :
    exitCalls g fixedWalk dt (treeOf g ops) =
      match treeOf g ops with
      | none => []
      | some n => (List.range g.nKeys).filterMap (fun k =>
          if matRec g g.depth n k = true then (dt k).map (fun _ => Ev.call k (getRec g g.depth n k)) else none) := by
  have hw := treeOf_WT g ops
  unfold exitCalls
  cases h : treeOf g ops with
  | none => rfl
  | some n =>
    rw [h] at hw
    show callRec g fixedWalk dt g.depth n 0 g.nKeys = _
    rw [callRec_root g dt n hw, specCalls]
    apply filterMap_congr'
    intro k _
    simp [specEntry]

/-- a live key with a destructor and a non-NULL value gets exactly one call, with that value -/
theorem C11_nonnull_called_once (g : Geo) (dt : Dtors) (ops : List (Int × Val)) (k : Nat)
    (hk : k < g.nKeys) (hd : (dt k).isSome) (hv : get g (treeOf g ops) k ≠ 0) :
    (exitCalls g fixedWalk dt (treeOf g ops)).countP (fun e => e.key == some k) = 1 ∧
    Ev.call k (get g (treeOf g ops) k) ∈ exitCalls g fixedWalk dt (treeOf g ops) := by
  have hw := treeOf_WT g ops
  unfold exitCalls
  cases h : treeOf g ops with
  | none => simp [h, get] at hv
  | some n =>
    rw [h] at hw hv
    rw [get_nat g n k hk] at hv ⊢
    have hm := mat_of_get_ne g g.depth n k hv
    exact ⟨by simp [countP_callRec_root g dt n hw, hk, hm, hd],
      (mem_callRec_root g dt n hw _).mpr ⟨k, hk, hm, hd, rfl⟩⟩

/-- no destructor is called for a key without one, none with another key's value, none for an
    index outside the table -/
theorem C11_no_foreign_call (g : Geo) (dt : Dtors) (ops : List (Int × Val)) (k : Nat) (v : Val)
    (h : Ev.call k v ∈ exitCalls g fixedWalk dt (treeOf g ops)) :
    k < g.nKeys ∧ (dt k).isSome ∧ v = get g (treeOf g ops) k := by
  have hw := treeOf_WT g ops
  unfold exitCalls at h
  cases ht : treeOf g ops with
  | none => simp [ht] at h
  | some n =>
    rw [ht] at hw h
    obtain ⟨k', hk', _, hd, he⟩ := (mem_callRec_root g dt n hw _).mp h
    cases he
    exact ⟨hk', hd, (get_nat g n k hk').symm⟩

/-- thread exit never reads the key table outside `[0, nKeys)` -/
theorem C11_no_oob (g : Geo) (dt : Dtors) (ops : List (Int × Val)) (k : Nat) :
    Ev.oob k ∉ exitCalls g fixedWalk dt (treeOf g ops) := by
  intro h
  have hw := treeOf_WT g ops
  unfold exitCalls at h
  cases ht : treeOf g ops with
  | none => simp [ht] at h
  | some n =>
    rw [ht] at hw h
    obtain ⟨_, _, _, _, he⟩ := (mem_callRec_root g dt n hw _).mp h
    cases he

/-- the teardown makes as many `free` calls as the tree has allocated nodes, and does nothing else -/
theorem C11_destroy_frees_all (g : Geo) (ops : List (Int × Val)) (n : Node)
    (h : treeOf g ops = some n) :
    destroyRec g fixedWalk g.depth n 0 g.nKeys = List.replicate (nodeCount g g.depth n) Ev.free :=
  destroyRec_fixed g g.depth n 0 g.nKeys (show TreeWT g (some n) from h ▸ treeOf_WT g ops)

/-! ### non-vacuity and the refutation of the pinned walk -/

def dt20 : Dtors := fun k => if k = 20 then some 0 else none
def dt256 : Dtors := fun k => if k = 256 then some 0 else none

/-- hypotheses of `C11_nonnull_called_once` are satisfiable on the compiled-in geometry -/
example : (20 : Nat) < geo.nKeys ∧ (dt20 20).isSome ∧ get geo (treeOf geo [(20, 7)]) 20 ≠ 0 := by decide

/-- the repaired walk on the witness: exactly the one call -/
example : exitCalls geo fixedWalk dt20 (treeOf geo [(20, 7)]) = [Ev.call 20 7] := by decide

/-- **the pinned snapshot violated C11**: a thread whose only value is under key 20 (with a
    destructor) exits without any destructor call … -/
theorem C11_pinned_walk_misses_key20 :
    exitCalls geo pinnedWalk dt20 (treeOf geo [(20, 7)]) = [] := by decide

/-- … and with keys 0 and 256 in use the pinned walk reads cell 1024 of the 1024-cell table -/
theorem C11_pinned_walk_reads_outside_table :
    Ev.oob 1024 ∈ exitCalls geo pinnedWalk dt256 (treeOf geo [(0, 1), (256, 7)]) := by decide

end MythVerif.Tls
