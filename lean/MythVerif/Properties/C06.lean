import MythVerif.Proofs.BarrierReach
/-!
# C06 — barrier: nobody passes round k before all N arrived; one serial thread per round

Model `MythVerif.Barrier` (`myth_barrier_wait_body`, `myth_block_on_stack`,
`myth_wake_many_from_stack`, `myth_sleep_stack_push/pop` at single-CAS granularity).

Quantifiers.  `P` is the list of participants, **any** duplicate-free non-empty list of thread ids;
`N = P.length ≥ 1` is the value the barrier was initialised with.  `Reach P s` = `s` is reached from
`init` by **any** finite sequence of shared accesses all made by members of `P` (`WellUsed`; a
participant calls `wait` again only after its previous `wait` returned because `read` is enabled
only from `idle`/`retry`).  Any number of rounds, any interleaving; workers do not appear because
a label is enabled whichever worker executes it (a blocked thread is resumed by whoever takes it
from a run queue: `woken` threads just continue).

Round bookkeeping is ghost state: `rnd t` = number of waits `t` has returned from (so a thread
inside `wait` is in its round `rnd t`), `gen` = number of rounds whose last arrival happened,
`arr k`/`retd k`/`serial k`/`pushed k` = arrivals / returns / SERIAL returns / run-queue pushes of round k.
-/
namespace MythVerif.Barrier
open MythVerif

/-- **nobody passes round k before all N arrived.**  When a participant returns from its wait
    number `k = rnd t`, round `k` has had exactly `N` arrivals, and every participant has performed
    the arrival (successful CAS +1) of its own k-th wait: it is either still inside that wait after
    its arrival, or has already returned from it. -/
theorem C06_no_early_pass (P : List Tid) (hn : P.Nodup) (h0 : P ≠ []) (s s' : St) (h : Reach P s)
    (t : Tid) (v : Nat) (hs : step P.length s (.ret t v) = some s') :
    s.arr (s.rnd t) = P.length ∧
    ∀ p, p ∈ P → s.rnd t < s.rnd p ∨ (s.rnd p = s.rnd t ∧ prePc (s.pc p) = false) := by
  have hi := reach_inv P hn h0 s h
  have hto := (ret_old P s s' t v hi hs).1
  have hr := hi.oldR t hto
  refine ⟨hi.arrLt _ (by omega), ?_⟩
  intro p hp
  rcases hi.round hp with ⟨_, e⟩ | ⟨hpo, e⟩ | ⟨_, _, e, _⟩
  · left; omega
  · right
    refine ⟨by omega, ?_⟩
    rcases hi.oldPc p hpo with hb | hb | hb
    · revert hb; cases s.pc p <;> simp [blkPc, prePc]
    · simp [hb, prePc]
    · have := (hi.ldrI p).mpr hb
      revert this; cases s.pc p <;> simp [ldrPc, prePc]
  · left; omega

/-- arrivals never exceed N, and `state` never exceeds N: in particular no participant ever reads
    `state ≥ N`, i.e. the "excess threads" `exit(1)` of the code is unreachable in a well-used run -/
theorem C06_no_excess (P : List Tid) (hn : P.Nodup) (h0 : P ≠ []) (s : St) (h : Reach P s) :
    (∀ t, s.pc t ≠ .exited) ∧ s.count ≤ P.length ∧ ∀ k, s.arr k ≤ P.length := by
  have hi := reach_inv P hn h0 s h
  refine ⟨hi.noEx, ?_, ?_⟩
  · have := hi.cnt; have := hi.arrL
    by_cases hr : s.rst = true
    · have ha : s.arrd = [] := by
        cases hl : s.ldr with
        | none => have := hi.rstN hl; simp [hr] at this
        | some l =>
          have := (hi.rstL l hl).mp hr
          exact (hi.popA l (by simp [this, popPc])).1
      simp [hr, ha] at *; omega
    · simp [hr] at *; omega
  · intro k
    rcases Nat.lt_trichotomy k s.gen with hk | hk | hk
    · rw [hi.arrLt k hk]; exact Nat.le_refl _
    · subst hk; rw [hi.arrEq]; have := hi.arrL; omega
    · rw [hi.arrGt k hk]; omega

/-- **one serial thread per round.**  In every reachable state and for every round `k`: at most `N`
    returns, at most one of them with SERIAL; and once every participant has returned from its
    k-th wait there were exactly `N` returns of which exactly one carried SERIAL (so the other
    `N-1` carried 0, see `C06_return_values`). -/
theorem C06_one_serial_per_round (P : List Tid) (hn : P.Nodup) (h0 : P ≠ []) (s : St) (h : Reach P s)
    (k : Nat) :
    s.serial k ≤ 1 ∧ s.retd k ≤ P.length ∧ (s.retd k = P.length → s.serial k = 1) ∧
    ((∀ p, p ∈ P → k < s.rnd p) → s.retd k = P.length ∧ s.serial k = 1) := by
  have hi := reach_inv P hn h0 s h
  have hold0 : s.old = [] → s.ldr = none := by
    intro ho
    cases hl : s.ldr with
    | none => rfl
    | some l => have := hi.ldrO l hl; rw [ho] at this; cases this
  rcases Nat.lt_trichotomy (k + 1) s.gen with hk | hk | hk
  · obtain ⟨a, b, _⟩ := hi.retLt k hk
    simp [a, b]
  · obtain ⟨a, b, _⟩ := hi.retEq k hk
    refine ⟨by rw [b]; split <;> omega, by omega, ?_, ?_⟩
    · intro hr
      have : s.old = [] := List.eq_nil_of_length_eq_zero (by omega)
      rw [b, hold0 this]; simp
    · intro hall
      have : s.old = [] := by
        cases ho : s.old with
        | nil => rfl
        | cons o r =>
          have hoo : o ∈ s.old := by rw [ho]; simp
          have := hi.oldR o hoo
          have := hall o (hi.oldP o hoo)
          omega
      rw [this] at a
      refine ⟨by simpa using a, ?_⟩
      rw [b, hold0 this]; simp
  · obtain ⟨a, b, _⟩ := hi.retGe k (by omega)
    refine ⟨by omega, by omega, ?_, ?_⟩
    · intro hr; have := hi.nP; omega
    · intro hall
      exfalso
      cases P with
      | nil => exact h0 rfl
      | cons p r =>
        have hp : p ∈ p :: r := by simp
        have hkp := hall p hp
        rcases hi.round hp with ⟨_, e⟩ | ⟨_, e⟩ | ⟨_, _, e, _⟩ <;> omega

/-- a return carries SERIAL exactly when the returning thread is the (unique) last arriver of its
    round, and 0 otherwise -/
theorem C06_return_values (P : List Tid) (hn : P.Nodup) (h0 : P ≠ []) (s s' : St) (h : Reach P s)
    (t : Tid) (v : Nat) (hs : step P.length s (.ret t v) = some s') :
    (v = SERIAL ∧ s.ldr = some t ∧ s'.serial (s.rnd t) = s.serial (s.rnd t) + 1) ∨
    (v = 0 ∧ s.ldr ≠ some t ∧ s'.serial (s.rnd t) = s.serial (s.rnd t)) :=
  (ret_old P s s' t v (reach_inv P hn h0 s h) hs).2.imp (fun h => h.2) (fun h => h.2)

/-- **all return (safety half).**  When the last arriver `t` of round `k` has finished its release
    (it is about to return SERIAL), exactly `N-1` sleepers of round `k` have been handed to a run
    queue, nothing popped is left unpushed, every other participant still in round `k` is runnable
    (`woken`: it only has to return 0) and the stack holds no thread of round `k`. -/
theorem C06_all_return (P : List Tid) (hn : P.Nodup) (h0 : P ≠ []) (s : St) (h : Reach P s) (t : Tid)
    (ht : s.pc t = .lret) :
    s.pushed (s.rnd t) + 1 = P.length ∧ s.wk = [] ∧
    (∀ p, p ∈ P → p ≠ t → s.rnd p = s.rnd t → s.pc p = .woken) ∧
    (∀ x, x ∈ s.stack → s.rnd x = s.rnd t + 1) := by
  have hi := reach_inv P hn h0 s h
  obtain ⟨hwk, hpu⟩ := hi.lreA t ht
  have hl := (hi.ldrI t).mp (by simp [ht, ldrPc])
  have hto := hi.ldrO t hl
  have hrt := hi.oldR t hto
  have hothers : ∀ p, p ∈ P → p ≠ t → s.rnd p = s.rnd t → s.pc p = .woken := by
    intro p hp hpt hr
    rcases hi.round hp with ⟨_, e⟩ | ⟨hpo, _⟩ | ⟨_, _, e, _⟩
    · omega
    · rcases hi.pshC t (Or.inl ht) p hpo hpt with h | h
      · exact h
      · rw [hwk] at h; cases h
    · omega
  refine ⟨hpu, hwk, hothers, ?_⟩
  intro x hx
  have hxa := hi.stA x hx
  rcases hi.round (hi.mem_P (x := x) (by simp [hxa])) with ⟨_, e⟩ | ⟨hpo, _⟩ | ⟨_, _, _, e⟩
  · omega
  · have hxt : x ≠ t := by intro e; subst e; rw [ht] at hxa; cases hxa
    rcases hi.pshC t (Or.inl ht) x hpo hxt with h | h
    · rw [hxa] at h; cases h
    · rw [hwk] at h; cases h
  · simp [hxa, prePc] at e

/-- **all return, after the release.**  Once the last arriver of the previous round has returned
    (no release in progress), every participant that has not yet returned from that round is
    runnable with return value 0, nothing is popped-but-unpushed, and every thread on the stack or
    asleep belongs to the *current* round. -/
theorem C06_all_return_after (P : List Tid) (hn : P.Nodup) (h0 : P ≠ []) (s : St) (h : Reach P s)
    (hl : ∀ t, ldrPc (s.pc t) = false) :
    s.wk = [] ∧ (∀ p, p ∈ P → s.rnd p + 1 = s.gen → s.pc p = .woken) ∧
    (∀ x, s.pc x = .asleep → x ∈ s.stack ∧ s.rnd x = s.gen) := by
  have hi := reach_inv P hn h0 s h
  have hld := hi.ldr_none hl
  have hwk := hi.wkL hld
  have hold : ∀ p, p ∈ P → s.rnd p + 1 = s.gen → s.pc p = .woken := by
    intro p hp hr
    rcases hi.round hp with ⟨_, e⟩ | ⟨hpo, _⟩ | ⟨_, _, e, _⟩
    · omega
    · exact hi.oldW hld p hpo
    · omega
  refine ⟨hwk, hold, ?_⟩
  intro x hxa
  have hst : x ∈ s.stack := by
    rcases hi.asl x hxa with h | h
    · exact h
    · rw [hwk] at h; cases h
  refine ⟨hst, ?_⟩
  rcases hi.round (hi.mem_P (x := x) (by simp [hxa])) with ⟨_, e⟩ | ⟨hpo, _⟩ | ⟨_, _, e, _⟩
  · exact e
  · have := hi.oldW hld x hpo; rw [hxa] at this; cases this
  · exact e

/-- **no sleeper is left behind (stuck-freedom).**  In a reachable state in which no operation is
    in flight and nobody is runnable (every thread is outside `wait` or asleep), every sleeper
    belongs to the current, still incomplete round: fewer than `N` participants have arrived in
    it.  So a sleeper can only be waiting for participants that have not called `wait` yet. -/
theorem C06_no_stuck_sleeper (P : List Tid) (hn : P.Nodup) (h0 : P ≠ []) (s : St) (h : Reach P s)
    (hq : ∀ t, s.pc t = .idle ∨ s.pc t = .asleep) :
    ∀ x, s.pc x = .asleep → s.rnd x = s.gen ∧ s.arr s.gen < P.length ∧ s.arr s.gen = s.count := by
  have hi := reach_inv P hn h0 s h
  have hl : ∀ t, ldrPc (s.pc t) = false := by
    intro t; rcases hq t with e | e <;> simp [e, ldrPc]
  intro x hx
  have := (C06_all_return_after P hn h0 s h hl).2.2 x hx
  refine ⟨this.2, ?_, ?_⟩
  · rw [hi.arrEq]; have := hi.arrL; omega
  · rw [hi.arrEq, hi.cnt, hi.rstN (hi.ldr_none hl)]; simp

/-- the step that hands a sleeper to a run queue takes it out of the set of popped-not-yet-pushed
    threads (it was there, asleep, not on the stack, in the pusher's round), makes it runnable and
    adds one to the round's push count -/
theorem C06_wake_exactly_once (P : List Tid) (hn : P.Nodup) (h0 : P ≠ []) (s s' : St) (h : Reach P s)
    (t x : Tid) (hs : step P.length s (.wakePush t x) = some s') :
    s.pc x = .asleep ∧ x ∈ s.wk ∧ x ∉ s.stack ∧ s.rnd x = s.rnd t ∧
    x ∉ s'.wk ∧ x ∉ s'.stack ∧ s'.pc x = .woken ∧ s'.pushed (s.rnd t) = s.pushed (s.rnd t) + 1 := by
  have hi := reach_inv P hn h0 s h
  simp only [step] at hs
  split at hs
  · rename_i y rem hpc
    split at hs
    · rename_i hxy
      subst hxy
      simp at hs
      obtain ⟨hwk, _, _⟩ := hi.lpuA t _ hpc
      have hxw : x ∈ s.wk := by rw [hwk]; simp
      have hxa := hi.wkA x hxw
      have hxt : x ≠ t := by intro e; subst e; rw [hpc] at hxa; cases hxa
      have hns : x ∉ s.stack := fun hm => hi.stW x hm hxw
      have hto := hi.ldrO t ((hi.ldrI t).mp (by simp [hpc, ldrPc]))
      have := hi.oldR t hto; have := hi.oldR x (hi.wkO x hxw)
      subst hs
      refine ⟨hxa, hxw, hns, by omega, ?_, hns, ?_, ?_⟩
      · simp only; intro hm; exact ((List.Nodup.mem_erase_iff hi.wkN).mp hm).1 rfl
      · simp [hxt]
      · simp
    · simp at hs
  · simp at hs

/-- **reuse.**  While a last arriver may still touch the stack (from its CAS to its last pop) every
    participant is still in the same round as it — nobody has re-entered — and the others have all
    arrived and are not runnable; hence whatever it pops is a sleeper of its own round: a
    participant that is already in round k+1 is never popped as a round-k sleeper.  This is why
    resetting `state` to 0 *before* the pops is safe: sleepers are handed to the run queue only
    after the last pop. -/
theorem C06_reuse (P : List Tid) (hn : P.Nodup) (h0 : P ≠ []) (s : St) (h : Reach P s) (t : Tid)
    (ht : popPc (s.pc t) = true) :
    (∀ p, p ∈ P → s.rnd p = s.rnd t ∧ (p ≠ t → blkPc (s.pc p) = true)) ∧
    (∀ x, x ∈ s.stack ∨ x ∈ s.wk → s.rnd x = s.rnd t) := by
  have hi := reach_inv P hn h0 s h
  obtain ⟨_, hlen, _⟩ := hi.popA t ht
  have hall := all_old_of_len hi.oldP hi.oldN hlen
  have htl : ldrPc (s.pc t) = true := by revert ht; cases s.pc t <;> simp [popPc, ldrPc]
  have hto := hi.ldrO t ((hi.ldrI t).mp htl)
  have hrt := hi.oldR t hto
  have hP : ∀ p, p ∈ P → s.rnd p = s.rnd t ∧ (p ≠ t → blkPc (s.pc p) = true) := by
    intro p hp
    have hpo := hall p hp
    have := hi.oldR p hpo
    exact ⟨by omega, fun hpt => hi.popC t ht p hpo hpt⟩
  refine ⟨hP, ?_⟩
  intro x hx
  have hxa : s.pc x = .asleep := by
    rcases hx with h | h
    · exact hi.stA x h
    · exact hi.wkA x h
  exact (hP x (hi.mem_P (x := x) (by simp [hxa]))).1

/-- the thread taken off the stack by a successful pop CAS is a sleeper of the popper's own round -/
theorem C06_pop_same_round (P : List Tid) (hn : P.Nodup) (h0 : P ≠ []) (s s' : St) (h : Reach P s)
    (t x : Tid) (nx acc : List Tid) (ht : s.pc t = .lpopc x nx acc)
    (hs : step P.length s (.popCas t true) = some s') :
    s.rnd x = s.rnd t ∧ s.pc x = .asleep ∧ x ∈ P := by
  have hi := reach_inv P hn h0 s h
  simp only [step, ht] at hs
  split at hs
  · rename_i hc
    simp at hc
    have hxs : x ∈ s.stack := by
      obtain ⟨ys, hys⟩ := List.head?_eq_some_iff.mp hc
      rw [hys]; simp
    have hxa := hi.stA x hxs
    exact ⟨(C06_reuse P hn h0 s h t (by simp [ht, popPc])).2 x (Or.inl hxs), hxa, hi.mem_P (x := x) (by simp [hxa])⟩
  · simp at hs

/-- **single popper, no ABA.**  At most one thread is between its N-th-arrival CAS and its SERIAL
    return, so at most one thread pops at any time; and whenever a pop CAS succeeds, the
    `x->next` it installs (read before the CAS) is still the current rest of the stack: the stack
    after the pop is exactly the stack before it without its top. -/
theorem C06_single_popper (P : List Tid) (hn : P.Nodup) (h0 : P ≠ []) (s : St) (h : Reach P s) :
    (∀ t1 t2, ldrPc (s.pc t1) = true → ldrPc (s.pc t2) = true → t1 = t2) ∧
    (∀ t x nx acc s', s.pc t = .lpopc x nx acc → step P.length s (.popCas t true) = some s' →
        s.stack = x :: nx ∧ s'.stack = s.stack.tail) := by
  have hi := reach_inv P hn h0 s h
  constructor
  · intro t1 t2 h1 h2
    have a := (hi.ldrI t1).mp h1
    have b := (hi.ldrI t2).mp h2
    rw [a] at b; exact Option.some.inj b
  · intro t x nx acc s' ht hs
    simp only [step, ht] at hs
    split at hs
    · rename_i hc
      simp at hc
      have hst := suffix_head_eq hi.stN (hi.lpcA t x nx acc ht).2.2 hc
      simp at hs; subst hs
      simp [hst]
    · simp at hs

/-- **N = 1.**  With a single participant `p` no wait ever blocks: no thread is ever asleep,
    announced, popping or pushing, the stack stays empty, and every return carries SERIAL.
    (A wait is `read 0; CAS 0→1; reset; return SERIAL`, see the example below.) -/
theorem C06_N1 (p : Tid) (s : St) (h : Reach [p] s) :
    (∀ t, n1Pc (s.pc t) = true) ∧ s.stack = [] ∧
    (∀ t v s', step 1 s (.ret t v) = some s' → v = SERIAL) := by
  have hn : [p].Nodup := by simp
  have h0 : [p] ≠ [] := by simp
  have hpcs : ∀ t, n1Pc (s.pc t) = true := by
    obtain ⟨ls, hw, hr⟩ := h
    exact (runs_wu [p] (fun s => Inv [p] s ∧ ∀ t, n1Pc (s.pc t) = true)
      (fun s s' l hq hP hs => ⟨inv_step [p] s s' l hq.1 hP hs, n1_step [p] rfl s s' l hq.1 hq.2 hs⟩)
      ls init s ⟨inv_init [p] (by simp) hn, by intro t; simp [init, n1Pc]⟩ hw hr).2
  have hi := reach_inv [p] hn h0 s h
  refine ⟨hpcs, ?_, ?_⟩
  · cases hst : s.stack with
    | nil => rfl
    | cons x r =>
      have := hi.stA x (by rw [hst]; simp)
      have h1 := hpcs x
      rw [this] at h1; simp [n1Pc] at h1
  · intro t v s' hs
    simp only [step] at hs
    split at hs
    · rename_i hc; exact hc.2
    · split at hs
      · rename_i hc; have := hpcs t; simp [hc.1, n1Pc] at this
      · simp at hs

/-! ### the well-usedness hypothesis is satisfiable; non-vacuity -/

/-- three participants 0,1,2, two rounds.  Round 0: 0 and 1 arrive and push themselves (1's first
    push CAS fails because 0 pushed in between), 2 is the last arriver: resets, pops 1 then 0,
    pushes them to the run queue.  Thread 1 **races ahead**: it returns and arrives in round 1 and
    pushes itself while 2 is still pushing 0. -/
def demoTrace : List Lbl :=
  [.read 0 0, .cas 0 true, .read 1 1, .read 2 1, .cas 1 true, .cas 2 false, .read 2 2, .cas 2 true,
   .blockBegin 0, .blockBegin 1, .pushRead 1 none, .pushRead 0 none, .pushCas 0 true, .pushCas 1 false,
   .reset 2, .popRead 2 (some 0), .pushRead 1 (some 0), .pushCas 1 true, .popCas 2 false,
   .popRead 2 (some 1), .popCas 2 true, .popRead 2 (some 0), .popCas 2 true,
   .wakePush 2 1, .ret 1 0, .read 1 0, .cas 1 true, .blockBegin 1, .pushRead 1 none, .pushCas 1 true,
   .wakePush 2 0]

/-- the hypothesis "the same N participants use the barrier" is satisfiable (N = 3) … -/
theorem C06_wellused_satisfiable : WellUsed [0, 1, 2] demoTrace ∧
    ∃ s, runs (step 3) init demoTrace = some s := by
  constructor
  · unfold WellUsed; decide
  · exact ⟨_, rfl⟩

/-- … and it reaches a state with the racer asleep in round 1 while round 0 is still being
    released: the last arriver about to return SERIAL, thread 0 runnable, the stack holding only
    the round-1 thread. -/
example : ∃ s, runs (step 3) init demoTrace = some s ∧ s.count = 1 ∧ s.stack = [1] ∧ s.pc 2 = .lret ∧
    s.pc 0 = .woken ∧ s.pc 1 = .asleep ∧ s.rnd 1 = 1 ∧ s.rnd 0 = 0 ∧ s.gen = 1 ∧ s.arr 0 = 3 ∧ s.arr 1 = 1 := by
  refine ⟨_, rfl, ?_⟩; decide

/-- round 0 completes: all three return, exactly one with SERIAL -/
example : ∃ s, runs (step 3) init (demoTrace ++ [.ret 2 1, .ret 0 0]) = some s ∧
    s.retd 0 = 3 ∧ s.serial 0 = 1 ∧ s.pushed 0 = 2 ∧ s.old = [] ∧ s.ldr = none := by
  refine ⟨_, rfl, ?_⟩; decide

/-- N = 1: two rounds, each `read 0; CAS; reset; return SERIAL` -/
example : ∃ s, runs (step 1) init [.read 7 0, .cas 7 true, .reset 7, .ret 7 1, .read 7 0, .cas 7 true, .reset 7, .ret 7 1] = some s ∧
    s.serial 0 = 1 ∧ s.serial 1 = 1 ∧ s.rnd 7 = 2 ∧ s.stack = [] := by
  refine ⟨_, rfl, ?_⟩; decide

/-- the hypothesis is needed: with *three* threads using a barrier initialised for N = 2 the model
    reaches the code's "excess threads" `exit(1)` (thread 2 reads `state = 2`) -/
example : ∃ s, runs (step 2) init [.read 0 0, .cas 0 true, .read 1 1, .cas 1 true, .read 2 2] = some s ∧
    s.pc 2 = .exited := by
  refine ⟨_, rfl, ?_⟩; decide

end MythVerif.Barrier
