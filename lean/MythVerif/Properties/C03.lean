import MythVerif.Proofs.X86
/-!
# C03 — a thread's registers and stack survive every context switch and migration

All theorems are about the instruction lists of `Generated/CtxAsm.lean`, which
`translate/asm_extract.py` re-derives from the amd64 inline-asm branch of
`src/myth_context_func.h` on every run (templates `myth_swap_context_i`,
`myth_swap_context_withcall_i`, `myth_set_context_i`, `myth_set_context_withcall_i`; constants of
`myth_make_context_empty` / `myth_make_context_voidcall`), executed by the mini semantics of
`Model/X86.lean`.  They hold for EVERY machine state (all register values, all memory contents,
all context addresses), every SysV-conforming callback, and every combination
(suspended by swap | swap-with-callback) × (resumed by swap | swap-with-callback |
set_context | set_context-with-callback), which covers: switch into a fresh stack
(`myth_create_ex_body` child-first, `myth_startpoint_init_ex_body`), into a suspended thread
(yield, join, block on mutex / cond / barrier / felock / uncond, steal: the resumer is the
scheduler loop or another thread on ANY worker – nothing in the statements depends on which
worker executes the resuming half), into the scheduler, and the final jump away from a
finished thread (`myth_entry_point_cleanup`).

"Any intervening execution" is an arbitrary machine state `m2` (the resumer's state just before
its switch half) constrained only by: the saved frame `[saved_rsp, old rsp)` and the memory
the thread owns hold what they held after the save half.  That other threads do not write into
a suspended thread's stack is thereby a hypothesis (C cannot promise it); what is PROVED is that
the switch code itself, including the callback it runs on the target stack, does not.

Assumed, not proved (trusted base of this property):
* GCC honours the constraint lists (operands in the pinned registers; nothing but the declared
  outputs / clobbers is assumed dead; the "memory" clobber is a compiler barrier) – tied by the
  translator's objdump self-check on an instantiation at -O0 and -O2, and by the probe
  `harness/ctx_probe.c` on the whole library;
* vector / x87 data registers are caller-saved under SysV, so the user's compiler has spilled
  them before any library call; mxcsr / x87 control words are shared by all threads of a worker
  (`MYTH_SAVE_FPCSR` is 0) – outside the property as stated;
* `rsp ≡ 0 (mod 16)` at the asm statement (a property of the compiled caller, sampled by the
  probe in every callback and after every resumption): the hypothesis of the last part of
  `C03_frame_size_aligned`; `C03_call_alignment` assumes the resulting 16-aligned context word (`hal`);
* the mini semantics: unbounded integers for addresses (no wrap-around), 8-byte accesses that
  coincide or are disjoint, red zone = 128 bytes below rsp.
-/
namespace MythVerif.X86
open MythVerif.Gen.Ctx

/-- **Registers and stack survive a switch.**  A thread in state `m` executes the save half of
    either swap template (`S`); later a resumer in an ARBITRARY state `m2` executes the switch half
    of any of the four templates (`K`) with its target context word holding the saved rsp `T`,
    possibly running a SysV callback on the stack `[lo, T)` with side effects `W`; if the saved
    frame `[T, old rsp)` and the owned memory still hold what the save half left there, then
    the jump lands on the resume label and after the restore half rsp, rbp, rbx, r12–r15 equal
    the originals, the red zone `[old rsp − 128, old rsp)` and all owned memory at and above
    `old rsp − 128` other than the context word (which the save half wrote) are as the thread left them. -/
theorem C03_swap_restores (S : Suspend) (hS : S ∈ suspendKinds) (K : Resume) (hK : K ∈ resumeKinds)
    (env : Env) (m m2 : M) (own W : Int → Prop) (lo : Int)
    (hsys : ObeysSysV env.callee lo W)
    (hctx : m.reg S.ctx + 8 ≤ m.reg .rsp - frameBytes S.save ∨ m.reg .rsp ≤ m.reg S.ctx)
    (hto : m2.mem (m2.reg K.to) = (exec env m S.save).reg .rsp)
    (hframe : ∀ a, (exec env m S.save).reg .rsp ≤ a → a < m.reg .rsp →
        m2.mem a = (exec env m S.save).mem a)
    (hown : ∀ a, own a → m2.mem a = (exec env m S.save).mem a)
    (hlo : lo + 8 ≤ (exec env m S.save).reg .rsp)
    (hW : ∀ a, W a → ¬ ((exec env m S.save).reg .rsp ≤ a ∧ a < m.reg .rsp) ∧ ¬ own a)
    (hcb : ∀ a, own a → ¬ (lo ≤ a ∧ a < (exec env m S.save).reg .rsp)) :
    let m2' := exec env m2 K.switch
    let m3 := exec env m2' S.restore
    m2'.pc = env.label S.label ∧
    m3.reg .rsp = m.reg .rsp ∧ (∀ r ∈ calleeSaved, m3.reg r = m.reg r) ∧
    (∀ a, m.reg .rsp - 128 ≤ a → a < m.reg .rsp → m3.mem a = m.mem a) ∧
    (∀ a, own a → m.reg .rsp - 128 ≤ a → a ≠ m.reg S.ctx → m3.mem a = m.mem a) := by
  intro m2' m3
  have sv := save_effect S hS env m
  rw [sv.frame] at hctx
  obtain ⟨hl, h15, h14, h13, h12, hbx, hbp⟩ := sv.saved hctx
  rw [sv.rsp] at hto hframe hlo hW hcb
  have sw := switch_effect K hK env m2 lo W hsys
  simp only [hto] at sw
  obtain ⟨srsp, spc, smem⟩ := sw hlo
  -- the switch half (and its callback) writes only into the callee's frame and `W`,
  -- which miss the saved frame and the owned memory
  have keep : ∀ a, ¬ (lo ≤ a ∧ a < m.reg .rsp - 192) → ¬ W a → m2'.mem a = m2.mem a :=
    fun a h1 h2 => Classical.byContradiction fun hne => (smem a hne).elim h1 h2
  have keepF : ∀ a, m.reg .rsp - 192 ≤ a → a < m.reg .rsp → m2'.mem a = (exec env m S.save).mem a := by
    intro a h1 h2
    rw [keep a (by omega) (fun h => (hW a h).1 ⟨h1, h2⟩), hframe a h1 h2]
  have keepO : ∀ a, own a → m2'.mem a = (exec env m S.save).mem a := by
    intro a ho
    rw [keep a (hcb a ho) (fun h => (hW a h).2 ho), hown a ho]
  have rs := restore_effect S hS env m2'
  obtain ⟨rrsp, r15, r14, r13, r12, rbx, rbp⟩ := rs.frame srsp
  refine ⟨?_, ?_, ?_, ?_, ?_⟩
  · rw [spc, keepF _ (by omega) (by omega), hl]
  · show m3.reg .rsp = _
    rw [rrsp]; omega
  · intro r hr
    simp only [calleeSaved, List.mem_cons, List.not_mem_nil, or_false] at hr
    rcases hr with rfl | rfl | rfl | rfl | rfl | rfl
    · exact rbx.trans ((keepF _ (by omega) (by omega)).trans hbx)
    · exact rbp.trans ((keepF _ (by omega) (by omega)).trans hbp)
    · exact r12.trans ((keepF _ (by omega) (by omega)).trans h12)
    · exact r13.trans ((keepF _ (by omega) (by omega)).trans h13)
    · exact r14.trans ((keepF _ (by omega) (by omega)).trans h14)
    · exact r15.trans ((keepF _ (by omega) (by omega)).trans h15)
  · intro a h1 h2
    show m3.mem a = _
    rw [rs.mem, keepF a (by omega) h2]
    exact sv.mem a (by omega) (Or.inr h1)
  · intro a ho h1 h2
    show m3.mem a = _
    rw [rs.mem, keepO a ho]
    exact sv.mem a h2 (Or.inr h1)

/-- **The context is saved before the callback can publish the thread.**  In the
    swap-with-callback template the state at the `call` instruction already has the context word
    set to the saved rsp and the resume label and all six callee-saved registers in the frame;
    the save half itself contains no call. -/
theorem C03_save_before_callback (env : Env) (m : M)
    (hctx : m.reg swapWcFrom + 8 ≤ m.reg .rsp - frameBytes swapWcSave ∨ m.reg .rsp ≤ m.reg swapWcFrom) :
    let mC := exec env m (swapWcSave ++ beforeCall swapWcSwitch)
    let T := m.reg .rsp - frameBytes swapWcSave
    Instr.call ∉ swapWcSave ∧ (∀ r, Instr.callReg r ∉ swapWcSave) ∧
    exec env m (swapWcSave ++ swapWcSwitch) = exec env (exec1 env mC .call) (afterCall swapWcSwitch) ∧
    mC.mem (m.reg swapWcFrom) = T ∧
    mC.mem T = env.label swapWcLabel ∧
    mC.mem (T + 16) = m.reg .r15 ∧ mC.mem (T + 24) = m.reg .r14 ∧ mC.mem (T + 32) = m.reg .r13 ∧
    mC.mem (T + 40) = m.reg .r12 ∧ mC.mem (T + 48) = m.reg .rbx ∧ mC.mem (T + 56) = m.reg .rbp := by
  intro mC T
  have sv := save_effect ⟨swapWcSave, swapWcRestore, swapWcLabel, swapWcFrom⟩ (by simp [suspendKinds]) env m
  have hF : frameBytes swapWcSave = 192 := sv.frame
  -- up to the call the switch half has only loaded rsp
  have hmem : mC.mem = (exec env m swapWcSave).mem := by
    simp [mC, exec_append, beforeCall, swapWcSwitch, exec1]
  rw [hF] at hctx
  simp only [T, hF, hmem]
  exact ⟨by decide, by simp [swapWcSave], rfl, sv.ctx, sv.saved hctx⟩

/-- **The callback runs on the TARGET stack.**  For both with-callback templates: the callee is
    entered with `rsp = T − 8` where `T` is the word read from the target context (not the
    current thread's stack), its arguments still in rdi/rsi/rdx, the only memory written on the
    way being the return address at `T − 8`; the whole switch half changes memory only in the
    callee's own frame `[lo, T)` – strictly below the target rsp – and in the locations `W` the
    callback was given; afterwards rsp is `T + 8` and control is at the address stored at `T`. -/
theorem C03_callback_on_target_stack (K : Resume) (hK : K ∈ callbackKinds) (env : Env) (m : M)
    (lo : Int) (W : Int → Prop) (hsys : ObeysSysV env.callee lo W) :
    let T := m.mem (m.reg K.to)
    let E := callEntry env (exec env m (beforeCall K.switch))
    let s := exec env m K.switch
    s = exec env (env.callee E) (afterCall K.switch) ∧
    E.reg .rsp = T - 8 ∧
    (∀ r, r ≠ .rsp → E.reg r = m.reg r) ∧
    (∀ a, a ≠ T - 8 → E.mem a = m.mem a) ∧
    (lo + 8 ≤ T → s.reg .rsp = T + 8 ∧ s.pc = s.mem T ∧
      ∀ a, s.mem a ≠ m.mem a → (lo ≤ a ∧ a < T) ∨ W a) := by
  simp only [callbackKinds, List.mem_cons, List.not_mem_nil, or_false] at hK
  rcases hK with rfl | rfl <;> exact callSwitch_effect env m _ lo W hsys

theorem C03_callback_args :
    swapWcArg1 = .rdi ∧ swapWcArg2 = .rsi ∧ swapWcArg3 = .rdx ∧
    setWcArg1 = .rdi ∧ setWcArg2 = .rsi ∧ setWcArg3 = .rdx := by decide

/-- **Frame size keeps the alignment**: the save halves take a multiple of 16 bytes, so a thread
    suspended with `rsp ≡ 0 (mod 16)` has a saved context `≡ 0 (mod 16)`. -/
theorem C03_frame_size_aligned (S : Suspend) (hS : S ∈ suspendKinds) (env : Env) (m : M) :
    frameBytes S.save % 16 = 0 ∧
    (exec env m S.save).reg .rsp = m.reg .rsp - frameBytes S.save ∧
    (m.reg .rsp % 16 = 0 → (exec env m S.save).reg .rsp % 16 = 0) := by
  have sv := save_effect S hS env m
  rw [sv.frame, sv.rsp]
  omega

/-- **ABI alignment at the callback.**  If the target context is 16-aligned (a saved context by
    `C03_frame_size_aligned`, a fresh one by `C03_empty_aligned` / `C03_voidcall_entry_aligned`)
    the callee is entered with `rsp + 8 ≡ 0 (mod 16)`, exactly as after a `call` from an aligned
    frame; and after the switch half rsp is `T + 8`, i.e. the function whose address is stored
    at `T` is entered with the same ABI alignment. -/
theorem C03_call_alignment (K : Resume) (hK : K ∈ resumeKinds) (env : Env) (m : M)
    (lo : Int) (W : Int → Prop) (hsys : ObeysSysV env.callee lo W)
    (hal : m.mem (m.reg K.to) % 16 = 0) (hlo : lo + 8 ≤ m.mem (m.reg K.to)) :
    (K ∈ callbackKinds →
      ((callEntry env (exec env m (beforeCall K.switch))).reg .rsp + 8) % 16 = 0) ∧
    ((exec env m K.switch).reg .rsp + 8) % 16 = 0 := by
  constructor
  · intro hc
    have h := (C03_callback_on_target_stack K hc env m lo W hsys).2.1
    rw [h]; omega
  · have h := (switch_effect K hK env m lo W hsys hlo).1
    rw [h]; omega

/-- the Lean rendering of the two `myth_make_context_*` functions agrees with what the real
    functions computed for 64 consecutive stack addresses (samples taken by the translator) -/
theorem C03_make_context_samples :
    emptySamples.all (fun p => mkCtxRsp emptySub emptyAlign p.1 == p.2) = true ∧
    voidSamples.all (fun p => mkCtxRsp voidSub voidAlign p.1 == p.2) = true ∧
    emptySamples.length = 64 ∧ voidSamples.length = 64 := by decide

/-- `myth_make_context_empty`: the fresh context is 16-aligned and not above the stack top, so the
    callback of the child-first path is entered with the ABI alignment (`C03_call_alignment`) and
    everything it pushes is inside the new stack. -/
theorem C03_empty_aligned (stack : Nat) :
    mkCtxRsp emptySub emptyAlign stack % 16 = 0 ∧ mkCtxRsp emptySub emptyAlign stack ≤ stack ∧
    stack < mkCtxRsp emptySub emptyAlign stack + 16 := by
  simp only [mkCtxRsp, emptySub, emptyAlign]
  omega

/-- `myth_make_context_voidcall`: the context is 16-aligned, the entry address is the word at the
    context rsp (the one `pop %rax; jmp *%rax` consumes), that word lies inside the stack, and
    the entry function therefore starts with `rsp = ctx + 8 ≡ 8 (mod 16)` as after a `call`. -/
theorem C03_voidcall_entry_aligned (stack : Nat) (h : 8 ≤ stack) :
    let T := mkCtxRsp voidSub voidAlign stack
    T % 16 = 0 ∧ voidEntryOff = 0 ∧ T + 8 ≤ stack ∧ (T + 8 + 8) % 16 = 0 := by
  intro T
  refine ⟨?_, rfl, ?_, ?_⟩ <;> (simp only [T, mkCtxRsp, voidSub, voidAlign]; omega)

/-- **Final jump away from a finished thread (`myth_set_context_i`).**  The new rsp and the jump
    target are read from the target context only, no memory is written, no register other than
    rsp / rax changes; so two finished threads that differ arbitrarily in their registers but see
    the same memory and pass the same context hand over identical (rsp, pc, memory): nothing of
    the finished thread's register state or stack is used. -/
theorem C03_set_context_jump (env : Env) (m : M) :
    let T := m.mem (m.reg setTo)
    let s := exec env m setSwitch
    s.reg .rsp = T + 8 ∧ s.pc = m.mem T ∧ s.mem = m.mem ∧
    (∀ r, r ≠ .rsp → r ≠ .rax → s.reg r = m.reg r) ∧
    (∀ m' : M, m'.mem = m.mem → m'.reg setTo = m.reg setTo →
      (exec env m' setSwitch).reg .rsp = s.reg .rsp ∧ (exec env m' setSwitch).pc = s.pc ∧
      (exec env m' setSwitch).mem = s.mem) := by
  simp [exec, exec1, setSwitch, setTo]
  refine ⟨?_, ?_⟩
  · intro r h1 h2; simp [h1, h2]
  · intro m' h1 h2; simp [h1, h2]

/-- **Final jump with callback (`myth_set_context_withcall_i`, used by
    `myth_entry_point_cleanup` to free the finished thread's stack).**  The callback is entered on
    the TARGET stack (`rsp = T − 8`), so it may release the finished thread's stack; whatever the
    finished thread's registers were, afterwards rsp is `T + 8`, control is at the address stored
    at `T`, and memory changed only in the callee's frame below `T` and in `W`. -/
theorem C03_set_context_withcall (env : Env) (m : M) (lo : Int) (W : Int → Prop)
    (hsys : ObeysSysV env.callee lo W) (hlo : lo + 8 ≤ m.mem (m.reg setWcTo)) :
    let T := m.mem (m.reg setWcTo)
    let s := exec env m setWcSwitch
    (callEntry env (exec env m (beforeCall setWcSwitch))).reg .rsp = T - 8 ∧
    s.reg .rsp = T + 8 ∧ s.pc = s.mem T ∧
    (∀ a, s.mem a ≠ m.mem a → (lo ≤ a ∧ a < T) ∨ W a) ∧
    (¬ W T → s.pc = m.mem T) := by
  intro T s
  have h := C03_callback_on_target_stack ⟨setWcSwitch, setWcTo⟩ (by simp [callbackKinds]) env m lo W hsys
  obtain ⟨_, h2, _, _, h5⟩ := h
  obtain ⟨a1, a2, a3⟩ := h5 hlo
  refine ⟨h2, a1, a2, a3, ?_⟩
  intro hw
  show s.pc = _
  rw [a2]
  apply Classical.byContradiction
  intro hne
  rcases a3 T hne with h | h
  · exact absurd h.2 (by simp [T])
  · exact hw h

/-- **The compiler is told everything.**  When a swap statement "returns" the thread has been
    through arbitrary other code, so every GPR except rsp must be saved and restored by the
    template or declared dead: each one is pushed by the save half and popped by the restore
    half, or a (dummy, early-clobber) output, or a clobber; the restore half pops exactly what
    the save half pushed (minus the label slot) in reverse order; inputs are tied to the dummy
    outputs; "memory" and "cc" are clobbered.  Same for the no-return variants as far as it
    matters there (inputs tied, registers written are declared). -/
theorem C03_clobbers_cover :
    (∀ r ∈ gprs, r ≠ .rsp →
      (r ∈ pushed swapSave ∧ r ∈ popped swapRestore) ∨ r ∈ swapOutputs ∨ r ∈ swapClobbers) ∧
    (∀ r ∈ gprs, r ≠ .rsp →
      (r ∈ pushed swapWcSave ∧ r ∈ popped swapWcRestore) ∨ r ∈ swapWcOutputs ∨ r ∈ swapWcClobbers) ∧
    (∀ r ∈ callerSaved, r ∈ swapOutputs ∨ r ∈ swapClobbers) ∧
    (∀ r ∈ callerSaved, r ∈ swapWcOutputs ∨ r ∈ swapWcClobbers) ∧
    (∀ r ∈ calleeSaved, r ∈ pushed swapSave ∧ r ∈ pushed swapWcSave) ∧
    popped swapRestore = ((pushed swapSave).dropLast).reverse ∧
    popped swapWcRestore = ((pushed swapWcSave).dropLast).reverse ∧
    (∀ r ∈ swapInputs, r ∈ swapOutputs) ∧ (∀ r ∈ swapWcInputs, r ∈ swapWcOutputs) ∧
    (∀ r ∈ setInputs, r ∈ setOutputs) ∧ (∀ r ∈ setWcInputs, r ∈ setWcOutputs) ∧
    (∀ r ∈ written setSwitch, r ∈ setOutputs) ∧ (∀ r ∈ written setWcSwitch, r ∈ setWcOutputs) ∧
    (∀ r ∈ written (swapSave ++ swapSwitch), r ∈ swapOutputs ∨ r ∈ pushed swapSave) ∧
    (∀ r ∈ written (swapWcSave ++ swapWcSwitch), r ∈ swapWcOutputs ∨ r ∈ pushed swapWcSave) ∧
    swapOutputsEarlyClobber = true ∧ swapWcOutputsEarlyClobber = true ∧
    setOutputsEarlyClobber = true ∧ setWcOutputsEarlyClobber = true ∧
    swapClobbersMemory = true ∧ swapWcClobbersMemory = true ∧
    setClobbersMemory = true ∧ setWcClobbersMemory = true ∧
    swapClobbersCC = true ∧ swapWcClobbersCC = true := by
  repeat' apply And.intro
  all_goals decide

/-! ## Non-vacuity -/

/-- the hypotheses of `C03_swap_restores` are satisfiable for EVERY initial state of the suspended
    thread with a sane stack pointer and context address, every pair (S, K), by a resumer whose
    registers are all different garbage: so the theorem really restores seven registers that
    were destroyed in between. -/
example (S : Suspend) (hS : S ∈ suspendKinds) (K : Resume) (hK : K ∈ resumeKinds) (m : M)
    (hrsp : 2000 ≤ m.reg .rsp) (hctx : m.reg .rsp + 100 ≤ m.reg S.ctx) :
    let m1 := exec exEnv m S.save
    let m2 : M := { reg := fun r => if r = K.to then m.reg S.ctx else 12345, mem := m1.mem, pc := 0 }
    let m3 := exec exEnv (exec exEnv m2 K.switch) S.restore
    m2.reg .rbx = 12345 ∧ m3.reg .rsp = m.reg .rsp ∧ ∀ r ∈ calleeSaved, m3.reg r = m.reg r := by
  intro m1 m2 m3
  have sv := save_effect S hS exEnv m
  have hKto : K.to ≠ .rbx := by
    simp only [resumeKinds, List.mem_cons, List.not_mem_nil, or_false] at hK
    rcases hK with rfl | rfl | rfl | rfl <;> simp [swapTo, swapWcTo, setTo, setWcTo]
  have h := C03_swap_restores S hS K hK exEnv m m2 (fun a => m.reg .rsp ≤ a) (fun _ => False) 0
    exCallee_sysv (by rw [sv.frame]; omega)
    (by simp only [m2, if_pos]; rw [sv.ctx, sv.rsp])
    (by intro a _ _; rfl) (by intro a _; rfl) (by rw [sv.rsp]; omega)
    (by intro a h; exact h.elim) (by intro a h; rw [sv.rsp]; omega)
  refine ⟨?_, h.2.1, h.2.2.1⟩
  simp [m2, Ne.symm hKto]

/-- concrete run: plain swap, registers 1..6, rsp 10000, context word at 20000; the saved frame -/
example :
    let m : M := { reg := fun r => match r with
        | .rsp => 10000 | .rbp => 1 | .rbx => 2 | .r12 => 3 | .r13 => 4 | .r14 => 5 | .r15 => 6
        | .rax => 20000 | .rdx => 20008 | _ => 0, mem := fun _ => 0, pc := 0 }
    let s := exec exEnv m swapSave
    s.reg .rsp = 9808 ∧ s.mem 20000 = 9808 ∧ s.mem 9808 = 4000001 ∧ s.mem 9824 = 6 ∧ s.mem 9864 = 1 := by
  decide

/-- concrete run of the final jump with callback: `exCallee` really writes into its frame below the
    target rsp (49984, 49928) and destroys rax / rcx, the return address lands at `T − 8`, nothing
    is written on the finished thread's stack (rsp 10000), control arrives at the saved label -/
example :
    let m : M := {
      reg := (fun r => match r with
        | .rsp => 10000 | .rax => 20000 | .rdi => 11 | .rsi => 22 | .rdx => 33 | _ => 0),
      mem := (fun a => if a = 20000 then 50000 else if a = 50000 then 4000001 else 0),
      pc := 0 }
    let s := exec exEnv m setWcSwitch
    s.reg .rsp = 50008 ∧ s.pc = 4000001 ∧ s.mem 49992 = 4100000 ∧ s.mem 49984 = 777 ∧
    s.mem 49928 = 888 ∧ s.mem 10000 = 0 ∧ s.mem 9992 = 0 ∧ ObeysSysV exEnv.callee 0 (fun _ => False) := by
  refine ⟨by decide, by decide, by decide, by decide, by decide, by decide, by decide, exCallee_sysv⟩

/-- the alignment hypotheses are satisfiable: a 16-aligned saved context (10000 − 192 = 9808)
    and both kinds of fresh context for a typical stack top -/
example : (10000 - frameBytes swapWcSave) % 16 = 0 ∧ mkCtxRsp emptySub emptyAlign 70000 = 70000 ∧
    mkCtxRsp voidSub voidAlign 70000 = 69984 := by decide

end MythVerif.X86
