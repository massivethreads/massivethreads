import MythVerif.Proofs.DagRecStat
import MythVerif.Proofs.DagRecPathCount
import MythVerif.Proofs.DagRecPathFlat
/-!
# C18 — DAG Recorder totals do not depend on how the DAG was contracted

Model: `MythVerif.DagRec` (`Model/DagRec.lean`): `dr_end_interval_`, the est / ready-time cursor
of `dr_start_task__` / `dr_return_from_*__`, `dr_accumulate_stats`, `dr_collapse_subgraph`,
`dr_summarize_section_or_task` with the three contraction policies and the budget walk
`dr_prune_nodes_norec`.  `record v o startClock t` is the in-memory DAG the recorder holds after
`dr_stop` for the execution tree `t` under the contraction options `o`; `leavesTree t` is the
complete uncontracted sequence of intervals.

Quantification: every execution tree (`wnTask t` = the grammar `task ::= (section | other)* end`,
`section ::= (section | create task | other)* wait`, unbounded depth / width), every time stamp,
every worker assignment (workers are part of the raw interval data), every setting of the
contraction options — and in `C18_policy_independent` every `Admissible` contraction policy
(one that touches only the node counters and the children).
The theorems are about `Variant.fixed`, the current source; `Variant.pinned` (the snapshot's
edge counting and `dr_collapse_subgraph`) is kept with its refutations at the end.

The critical path.  What `dr_accumulate_stats` computes for `t_inf` is a sum of interval LENGTHS
(`end − start` of each interval, `dr_end_interval_`) along the heaviest chain: the serial sum of
the children's `t_inf`, and a running maximum over `prefix + child.t_inf` for the tasks created
in a section.  No time stamp other than through these lengths, and no `est`, enters it.  Two
characterisations are proved, for every well-nested execution and arbitrary stamps (no causality
hypothesis is needed):
* `C18_span_eq_est_finish`: `t_inf` of the root = `max (est + length)` over all intervals, `est`
  being the recorder's own top-down earliest-start propagation;
* `C18_span_is_longest_path`: `t_inf` of the root = the weight of a LONGEST PATH of the explicit
  dependency graph `depGraph t` of the uncontracted execution (`Proofs/DagRecPath.lean`): vertices
  = the intervals in program order, vertex weight = interval length `Leaf.dur`, edges = the
  dependency edges `dr_pi_dag_enum_edges` emits for the uncontracted DAG (last interval of a
  non-last child → first interval of its successor; create interval → first interval of the
  created task; `end_task` interval of the created task → first interval after the creating
  section), path weight = sum of the vertex weights.  Both halves are proved: no path is heavier,
  and a path starting at the first interval attains the value.  `…_any_policy` transfers it to the
  DAG recorded under any admissible contraction policy.
That `depGraph` is the graph the C code builds (the one of the C19 model) is proved twice:
`C18_dep_edge_counts` (its edge numbers by kind = the root's `logical_edge_counts`), and
`Proofs/DagRecPathDump.lean` `teN_rec`: the edge list `dr_pi_dag_enum_edges` emits for a dump of the
uncontracted recording (`PiDag.teN`, a permutation of `enumEdges`) is `edgesT t 0` with every
position renamed to the array slot its interval occupies.  On that basis
* `C18_span_is_longest_path_of_dump`: in `flatten sc' nw (record v {} sc t)` — the position
  independent DAG `dr_make_pi_dag` builds from the uncontracted recording, i.e. what `dr_dump`
  writes — with vertices = slots of `T`, weights = `t_1` of the leaf slots (0 for the section /
  task slots, which have no edges), edges = the array `E` as `dr_pi_dag_enum_edges` + sort produce
  it, `t_inf` stored in the root slot `T[0]` is the weight of a longest path; `C18_span_any_options_…` says the root of
  the recording under ANY option setting reports that same number.
What is NOT proved: a longest-path reading of a CONTRACTED dump (collapsed sections / tasks as
single vertices weighing their `t_inf`); the edge KINDS of the dump are compared with those of
`depGraph` only through their counts (the renaming theorem compares end points).
-/
namespace MythVerif.DagRec

/-- **the contraction-independent part of a node's `info` does not depend on the policy**:
    whatever subset of sections / tasks is collapsed or pruned, at whatever time, by whatever
    rule (`Admissible`: the rule may only touch the node counters and the children), every field
    of the resulting `info` other than `cur_node_count` / `min_node_count` — work, critical path,
    interval counts, edge counts, start / end, est, ready times, worker — is the same. -/
theorem C18_policy_independent (v : Variant) (p q : Policy) (hp : Admissible p) (hq : Admissible q)
    (t : Tree) (c : Cursor) :
    (recTree v p t c).1.info.c = (recTree v q t c).1.info.c := by
  rw [← DNode.view_i, ← DNode.view_i, (recTree_view v p hp t c).1.1, (recTree_view v q hq t c).1.1]

/-- in particular the recorder's own option settings (collapse_max, uncollapse_min,
    collapse_max_count, node_count_target / prune_threshold) do not influence the root totals -/
theorem C18_options_independent (v : Variant) (o o' : Opts) (startClock : Nat) (t : Tree) :
    (record v o startClock t).info.c = (record v o' startClock t).info.c :=
  C18_policy_independent v _ _ (admissible_summarize v o) (admissible_summarize v o') t _

/-- work is the sum of all interval lengths -/
theorem C18_work_is_sum (v : Variant) (o : Opts) (sc : Nat) (t : Tree) (h : wnTask t = true) :
    (record v o sc t).info.c.t1 = flatWork (leavesTree t) := by
  rw [record_core]
  obtain ⟨f, rfl, _⟩ := wnTask_group h
  have := (viewTree_t1_nc v (.group .task f) (rootCursor sc) (wnAny_of_task h)).1
  rwa [View.t1_none _ (by simp [viewTree])] at this

/-- the numbers of create / wait / other / end intervals and of the edges of the five kinds the
    root reports equal the counts over the complete uncontracted sequence of intervals -/
theorem C18_counts_exact (o : Opts) (sc : Nat) (t : Tree) (h : wnTask t = true) :
    (record .fixed o sc t).info.c.nc = flatNC (leavesTree t) ∧
    (record .fixed o sc t).info.c.ec = flatEC (leavesTree t) := by
  rw [record_core]
  refine ⟨?_, (viewTree_ec t (rootCursor sc)).2.2 h⟩
  obtain ⟨f, rfl, _⟩ := wnTask_group h
  have := (viewTree_t1_nc .fixed (.group .task f) (rootCursor sc) (wnAny_of_task h)).2
  rwa [View.nc_none _ (by simp [viewTree])] at this

/-- the bottom-up critical path `t_inf` of the root equals the latest earliest-finish time
    (`est + duration`) over all intervals, where `est` is the top-down earliest-start propagation
    the recorder performs independently at record time (`dr_start_task__`, `dr_return_from_*__`):
    two different computations in the code, related by this theorem -/
theorem C18_span_eq_est_finish (v : Variant) (o : Opts) (sc : Nat) (t : Tree) (h : wnTask t = true) :
    (record v o sc t).info.c.tinf = maxFinish (leafInfosTree v t (rootCursor sc)) := by
  rw [record_core]
  obtain ⟨f, rfl, _⟩ := wnTask_group h
  have := ((viewTree_span v (.group .task f) (rootCursor sc)).1 (wnAny_of_task h)).2.1
  rw [View.sub_none _ (by simp [viewTree])] at this
  simp only [rootCursor] at this ⊢
  omega

/-- **span = longest path of the dependency DAG of the recorded intervals.**  For every
    well-nested execution `t` (any stamps, any workers, any option setting): in the explicit
    dependency graph `depGraph t` of the uncontracted execution — vertex `i` = the `i`-th interval
    of `leavesTree t`, weighted by its length `end − start`; edges = create → first interval of
    the child, create → continuation, other → continuation, wait → continuation of the section,
    `end_task` of a created task → continuation of the creating section —
    (1) every path (list of vertices, consecutive ones joined by an edge) has weight, i.e. sum of
    interval lengths, at most the root's `t_inf`, and (2) some path, starting at the first
    interval, has exactly that weight.  The weight is a sum of pure interval lengths, which is
    what `dr_accumulate_stats` adds up (serial sum of `t_inf`, running max over
    `prefix + child.t_inf`); time stamps enter only through the lengths. -/
theorem C18_span_is_longest_path (v : Variant) (o : Opts) (sc : Nat) (t : Tree) (h : wnTask t = true) :
    (∀ p, (depGraph t).IsPath p → (depGraph t).pathWeight p ≤ (record v o sc t).info.c.tinf) ∧
    (∃ p, (depGraph t).IsPath p ∧ p.head? = some 0 ∧
      (depGraph t).pathWeight p = (record v o sc t).info.c.tinf) := by
  rw [C18_span_eq_est_finish v o sc t h]
  exact maxFinish_is_longest_path v sc t h

/-- the same as a maximum: the root's `t_inf` is THE weight of a longest path -/
theorem C18_span_is_max_path_weight (v : Variant) (o : Opts) (sc : Nat) (t : Tree) (h : wnTask t = true) :
    (depGraph t).IsLongestPathWeight (record v o sc t).info.c.tinf := by
  obtain ⟨h1, p, hp, _, hw⟩ := C18_span_is_longest_path v o sc t h
  exact ⟨h1, p, hp, hw⟩

/-- by `C18_policy_independent`: whatever admissible contraction policy the DAG was recorded
    under (any subset of sections / tasks collapsed or pruned at any time), the `t_inf` its root
    reports is the weight of a longest path of the dependency graph of the UNCONTRACTED execution -/
theorem C18_span_is_longest_path_any_policy (v : Variant) (pol : Policy) (hpol : Admissible pol)
    (sc : Nat) (t : Tree) (h : wnTask t = true) :
    (∀ p, (depGraph t).IsPath p →
      (depGraph t).pathWeight p ≤ (recTree v pol t (rootCursor sc)).1.info.c.tinf) ∧
    (∃ p, (depGraph t).IsPath p ∧ p.head? = some 0 ∧
      (depGraph t).pathWeight p = (recTree v pol t (rootCursor sc)).1.info.c.tinf) := by
  rw [C18_policy_independent v pol (summarize v {}) hpol (admissible_summarize v {}) t (rootCursor sc)]
  exact C18_span_is_longest_path v {} sc t h

/-- **the same on the dumped DAG**: take the position independent DAG `dr_make_pi_dag` builds from
    the uncontracted recording (`flatten`; any clock origin `sc'`, any worker count).  Vertices =
    the slots of its node array `T`, a leaf slot weighing its `t_1` (interval length) and a
    section / task slot nothing; edges = its edge array `E` (`dr_pi_dag_enum_edges`, sorted).  The
    `t_inf` in the root slot is the weight of a longest path of that graph. -/
theorem C18_span_is_longest_path_of_dump (v : Variant) (sc : Nat) (t : Tree) (h : wnTask t = true) (sc' nw : Nat) :
    (dumpGraph (PiDag.flatten sc' nw (record v {} sc t))).IsLongestPathWeight
      (PiDag.flatten sc' nw (record v {} sc t)).T[0]!.info.c.tinf := by
  have h0 : (PiDag.flatten sc' nw (record v {} sc t)).T[0]!.info.c.tinf = (record v {} sc t).info.c.tinf := by
    rw [(PiDag.flatten_spec sc' nw (record v {} sc t)).2]; rfl
  rw [h0, C18_span_eq_est_finish v {} sc t h]
  exact dump_longest_path v sc t h sc' nw

/-- … and the root of the DAG recorded under any option setting reports exactly that number -/
theorem C18_span_any_options_is_dump_longest_path (v : Variant) (o : Opts) (sc : Nat) (t : Tree)
    (h : wnTask t = true) (sc' nw : Nat) :
    (dumpGraph (PiDag.flatten sc' nw (record v {} sc t))).IsLongestPathWeight (record v o sc t).info.c.tinf := by
  rw [C18_span_eq_est_finish v o sc t h]
  exact dump_longest_path v sc t h sc' nw

/-- the dependency graph is the graph whose edges the recorder counts: it has exactly as many
    edges of each of the five kinds as the root reports in `logical_edge_counts` (current source) -/
theorem C18_dep_edge_counts (o : Opts) (sc : Nat) (t : Tree) (h : wnTask t = true) :
    edgeCounts (depGraph t).edges = (record .fixed o sc t).info.c.ec := by
  rw [(C18_counts_exact o sc t h).2]
  exact (edgeCounts_tree t 0).2.2 h

/-- the critical path never exceeds the work (any tree, any stamps) -/
theorem C18_span_le_work (v : Variant) (o : Opts) (sc : Nat) (t : Tree) :
    (record v o sc t).info.c.tinf ≤ (record v o sc t).info.c.t1 := by
  rw [record_core]
  exact (viewTree_le v t _).1

/-- `cur_node_count` of the root is the number of nodes that are materialised in memory, under
    every option setting, including after the budget-splitting walk of `dr_prune_nodes_norec` -/
theorem C18_node_count_bookkeeping (v : Variant) (o : Opts) (sc : Nat) (t : Tree) (h : wnTask t = true) :
    (record v o sc t).info.cur = (record v o sc t).count := by
  unfold record
  rw [DNode.count_eq _ (recTree_consistent v o t (rootCursor sc) (wnAny_of_task h)), curBelow_group]
  obtain ⟨f, rfl, _⟩ := wnTask_group h
  rw [rec_group]
  exact summarize_isGroup v o _ _

/-- **the edge totals of the `.stat` file do not depend on the contraction**: `totN d` is what
    `gen_stat.c` adds up for a (contracted) DAG — the logical edge counts of the collapsed
    sections / tasks plus the edges `dr_pi_dag_enum_edges` still emits explicitly for the
    materialised ones (tree-level account of those edges).  Under every option setting it equals
    the edge counts of the complete uncontracted sequence of intervals. -/
theorem C18_stat_edges_policy_independent (o : Opts) (sc : Nat) (t : Tree) (h : wnTask t = true) :
    totN (record .fixed o sc t) = flatEC (leavesTree t) := by
  obtain ⟨hg, hgrp⟩ := (recTree_good o t (rootCursor sc)).2.2 h
  rw [← (C18_counts_exact o sc t h).2]
  unfold record
  rw [good_tot _ hg]
  cases hd : (recTree .fixed (summarize .fixed o) t (rootCursor sc)).1 <;> simp_all [DNode.isGroup, ecOf, DNode.info]

/-! ### non-vacuity and the refutations of the pinned behaviour -/

def r (s e w : Nat) : Raw := { startT := s, endT := e, worker := w }

/-- root task: other; section { create { child task: other; end } ; other ; wait } ; end
    (the child runs on worker 1, everything else on worker 0) -/
def demo : Tree :=
  .group .task (.cons (.ival .other (r 10 20 0))
    (.cons (.group .section
      (.cons (.create (r 21 30 0) (.group .task (.cons (.ival .other (r 31 50 1)) (.cons (.ival .endTask (r 52 90 1)) .nil))))
      (.cons (.ival .other (r 32 40 0)) (.cons (.ival .waitTasks (r 41 45 0)) .nil))))
    (.cons (.ival .endTask (r 95 100 0)) .nil)))

example : wnTask demo = true := by decide
example : flatWork (leavesTree demo) = 10 + 9 + 19 + 38 + 8 + 4 + 5 := by decide
/-- uncontracted, `collapse_max = 1000` and pruning to 3 nodes: same totals, different node counts -/
example : (record .fixed {} 5 demo).info.c.t1 = 93 ∧ (record .fixed {} 5 demo).info.c.tinf = 81 ∧
    (record .fixed {} 5 demo).count = 10 := by decide
example : (record .fixed { collapseMax := 1000 } 5 demo).info.c.t1 = 93 ∧
    (record .fixed { collapseMax := 1000 } 5 demo).info.c.tinf = 81 ∧
    (record .fixed { collapseMax := 1000 } 5 demo).count = 8 := by decide
example : (record .fixed { nodeCountTarget := 3 } 5 demo).info.c.tinf = 81 ∧
    (record .fixed { nodeCountTarget := 3 } 5 demo).count = 8 := by decide
example : (record .fixed {} 5 demo).info.c.ec = ⟨1, 1, 1, 1, 3⟩ := by decide

/-- the dependency graph of `demo`: 7 intervals; the create interval (vertex 1) has a `create`
    edge to the child's first interval (2) and a `create_cont` edge to the parent's continuation
    (4); the child's `end_task` (3) and the section's wait (5) both lead to the root's `end_task` (6) -/
example : (depGraph demo).dur = [10, 9, 19, 38, 8, 4, 5] ∧
    (depGraph demo).edges = [⟨.otherCont, 0, 1⟩, ⟨.waitCont, 5, 6⟩, ⟨.create, 1, 2⟩, ⟨.end_, 3, 6⟩,
      ⟨.createCont, 1, 4⟩, ⟨.otherCont, 4, 5⟩, ⟨.otherCont, 2, 3⟩] := by decide

/-- in `demo` the longest path goes THROUGH THE CHILD: other, create, the child's two intervals,
    the root's end — weight 10 + 9 + 19 + 38 + 5 = 81 = `t_inf`; the path that stays in the parent
    weighs only 36 -/
example : (depGraph demo).IsPath [0, 1, 2, 3, 6] ∧ (depGraph demo).pathWeight [0, 1, 2, 3, 6] = 81 ∧
    (record .fixed {} 5 demo).info.c.tinf = 81 ∧
    (depGraph demo).IsPath [0, 1, 4, 5, 6] ∧ (depGraph demo).pathWeight [0, 1, 4, 5, 6] = 36 := by decide

/-- jumping from the child back into the middle of the section, or skipping an interval, is not a path -/
example : ¬ (depGraph demo).IsPath [0, 1, 2, 3, 5] ∧ ¬ (depGraph demo).IsPath [0, 2] ∧
    ¬ (depGraph demo).IsPath [] ∧ ¬ (depGraph demo).IsPath [7] := by decide

/-- the dump of `demo` has 10 slots (3 sections / tasks weighing 0, 7 intervals; program order ↦
    slots 1, 4, 8, 9, 5, 6, 3); the longest path of its edge array weighs 81 (it is
    1 → 4 → 8 → 9 → 3, through the child); `mergeSort` does not reduce in the kernel, so the edge
    array itself is not unfolded here but reached through the theorem -/
example : (dumpGraph (PiDag.flatten 5 2 (record .fixed {} 5 demo))).dur = [0, 10, 0, 5, 9, 8, 4, 0, 19, 38] ∧
    (dumpGraph (PiDag.flatten 5 2 (record .fixed {} 5 demo))).pathWeight [1, 4, 8, 9, 3] = 81 ∧
    PiDag.leavesN (record .fixed {} 5 demo) 0 1 = [1, 4, 8, 9, 5, 6, 3] := by decide +kernel

example : (dumpGraph (PiDag.flatten 5 2 (record .fixed {} 5 demo))).IsLongestPathWeight 81 := by
  have := C18_span_any_options_is_dump_longest_path .fixed {} 5 demo (by decide) 5 2
  rwa [show (record .fixed {} 5 demo).info.c.tinf = 81 by decide] at this

/-- the same program with a short child (1 + 2 cycles) and a long continuation in the parent -/
def demoParent : Tree :=
  .group .task (.cons (.ival .other (r 10 20 0))
    (.cons (.group .section
      (.cons (.create (r 21 30 0) (.group .task (.cons (.ival .other (r 31 32 1)) (.cons (.ival .endTask (r 33 35 1)) .nil))))
      (.cons (.ival .other (r 32 72 0)) (.cons (.ival .waitTasks (r 73 77 0)) .nil))))
    (.cons (.ival .endTask (r 95 100 0)) .nil)))

example : wnTask demoParent = true := by decide

/-- in `demoParent` the longest path STAYS IN THE PARENT (create, create_cont, other, wait, end:
    10 + 9 + 40 + 4 + 5 = 68 = `t_inf`); the path through the child weighs 27 -/
example : (depGraph demoParent).IsPath [0, 1, 4, 5, 6] ∧ (depGraph demoParent).pathWeight [0, 1, 4, 5, 6] = 68 ∧
    (record .fixed {} 5 demoParent).info.c.tinf = 68 ∧
    (record .fixed { uncollapseMin := 1000 } 5 demoParent).info.c.tinf = 68 ∧
    (depGraph demoParent).IsPath [0, 1, 2, 3, 6] ∧ (depGraph demoParent).pathWeight [0, 1, 2, 3, 6] = 27 := by decide

/-- **the pinned snapshot violated C18**: it never counted `other_cont` edges, so the root's edge
    counts differed from the uncontracted sequence (3 such edges here) … -/
theorem C18_pinned_other_cont_uncounted :
    (record .pinned {} 5 demo).info.c.ec.otherCont = 0 ∧ (flatEC (leavesTree demo)).otherCont = 3 := by decide

/-- … it counted a child task's `end` edge in the PARENT of the creating section, so a collapsed
    section (here: the section, collapsed because its span 24 < uncollapse_min) reported no `end`
    edge for its child although the uncontracted section has one … -/
def demoSection : Tree :=
  .group .section (.cons (.create (r 21 30 0) (.group .task (.cons (.ival .endTask (r 52 90 1)) .nil)))
    (.cons (.ival .waitTasks (r 91 95 0)) .nil))

theorem C18_pinned_end_edge_outside_collapsed_section :
    (record .pinned { uncollapseMin := 1000 } 5 demoSection).count = 1 ∧
    (record .pinned { uncollapseMin := 1000 } 5 demoSection).info.c.ec.create = 1 ∧
    (record .pinned { uncollapseMin := 1000 } 5 demoSection).info.c.ec.end_ = 0 ∧
    (record .fixed { uncollapseMin := 1000 } 5 demoSection).info.c.ec.end_ = 1 := by decide

/-- the root task around `demoSection`: with collapse_max_count = 4 the section (3 intervals) is
    collapsed and the root task (4 intervals) is not -/
def demoTask : Tree := .group .task (.cons demoSection (.cons (.ival .endTask (r 96 99 0)) .nil))

/-- … so that the `.stat` edge totals depended on the contraction: the pinned code reported no
    `end` edge at all for this DAG (the uncontracted DAG has one); the current code reports it -/
theorem C18_pinned_stat_end_edges_depend_on_contraction :
    (totN (record .pinned { collapseMaxCount := 4 } 5 demoTask)).end_ = 0 ∧
    (totN (record .pinned {} 5 demoTask)).end_ = 1 ∧
    (totN (record .fixed { collapseMaxCount := 4 } 5 demoTask)).end_ = 1 ∧
    (record .fixed { collapseMaxCount := 4 } 5 demoTask).count = 3 := by decide

/-- … and `dr_collapse_subgraph` left `min_node_count` of a collapsed multi-worker subgraph stale,
    above `cur_node_count` (`dr_check_min_node_count` fails with chk_level ≥ 1) -/
theorem C18_pinned_min_exceeds_cur :
    (record .pinned { uncollapseMin := 1000 } 5 demo).info.min = 8 ∧
    (record .pinned { uncollapseMin := 1000 } 5 demo).info.cur = 1 ∧
    (record .fixed { uncollapseMin := 1000 } 5 demo).info.min = 1 := by decide

end MythVerif.DagRec
