import MythVerif.Proofs.PthreadSpec
import MythVerif.Proofs.MutexStaticInit
import MythVerif.Proofs.PthGate
import MythVerif.Proofs.PthOnce
/-!
# C16 — pthread programs behave the same on MassiveThreads as on the system pthreads

Four layers (DESIGN §4 C16):

1. **forwarding table** — `Gen.Wrap.table` / `Gen.Wrap.ldWrapped` are re-extracted from
   src/myth_wrap_pthread.c and src/myth-ld.opts on every run; `C16_forwarding` compares them with
   the hand-written expectation `PthreadSpec.spec` (`decide`);
2. **static initialisers** — `MythVerif.SInit`: any number of threads first-using one
   never-initialised mutex, one label per shared access (`C16_static_init_*`);
3. **attribute translation** — `pthread_attr_to_myth` on top of the attribute model of C01
   (`C16_attr_no_undef`, `C16_attr_detached`);
4. **programs** — `MythVerif.PthProg`: `C16_eval_determinate` for the fork-join +
   lock-protected-commutative fragment; `MythVerif.PthGate`: the same fragment extended by monotone
   condition-variable gates (`post` / `await`): `C16_eval_determinate_gates` (any two complete
   executions agree, and equal the closed formula), `C16_gates_monotone`,
   `C16_gates_stuck_is_deadlock` (no divergence: the only way not to terminate is a deadlock);
   `MythVerif.PthOnce`: that fragment extended by one-time initialisation (`once k` with a fixed
   routine of lock-protected counter updates per control): `C16_eval_determinate_once` (the
   routine of every mentioned, not yet done control is counted exactly once, whatever the number
   of callers and their order), `C16_once_runs_once`, `C16_once_stuck_is_deadlock`.
   For the other constructs of the description language
   (bounded buffers, barrier phases, keys, detached threads, sleeps)
   determinacy is by construction of the generator; what a generated program prints under the
   system library, under both redirection mechanisms and under `Flat.eval` is compared by
   differential execution (check/props/c16.py) — the system library is the oracle there, not a
   theorem.
-/

namespace MythVerif.PthreadSpec
open MythVerif.Gen.Wrap MythVerif.Attr

attribute [local instance high] instDecidableEqStringCode

/-- **forwarding**: for every function of the supported subset the wrapper extracted from the
    current source is exactly the expected one (MassiveThreads entry point, argument order,
    attribute conversion, static-initialiser handling first, result translation, real function and
    its argument order otherwise); every supported name — and every wrapper at all — has its
    `--wrap` entry in myth-ld.opts; the preloading build defines the same table; no supported
    function only warns, and none forwards to a body that calls `unimplemented()`. -/
theorem C16_forwarding :
    supported.map lookup = spec.map some ∧
    (∀ n ∈ supported, n ∈ ldWrapped) ∧
    (∀ e ∈ table, e.name ∈ ldWrapped) ∧
    dlTableEqualsLd = true ∧
    (∀ e ∈ table, e.name ∈ supported → (e.kind = .forward ∨ e.kind = .passthrough) ∧ e.mythFn ∉ unimplementedBodies) ∧
    (table.map (·.name)).Nodup := by
  have h : supported.map lookup = spec.map fun e => table.find? (code ·.name == code e.name) := by
    simp only [supported, List.map_map, Function.comp_def, lookup_code]
  rw [h]
  decide +kernel

/-- **the system-library side** (src/myth_real.c): for every supported function `f`, `real_f` calls
    `__real_f` in the link-time-wrapped build (the linker's name for the unwrapped symbol) and the
    `dlsym`-resolved `real_function_table.f` in the preloaded build — in particular it never calls
    the wrapped name `f` again (that the parameters are passed on in order is checked by the
    translator when it extracts `realTargets`). -/
theorem C16_real_targets :
    ∀ n ∈ supported, (n, "__real_" ++ n, "real_function_table." ++ n) ∈ realTargets := by
  decide +kernel

/-- the two helper functions the models transcribe, and the switch that turns wrapping off, have
    the statement skeleton the models assume -/
theorem C16_helper_shapes :
    handlerShape = handlerShapeSpec ∧ attrToMythShape = attrToMythShapeSpec ∧
    shouldWrapShape = shouldWrapShapeSpec :=
  ⟨rfl, rfl, rfl⟩

/-- **objects are compatible**: a `PTHREAD_MUTEX_INITIALIZER` object starts with a word that is
    neither magic number (so the first use converts it) and the magic word is the first word; the
    myth objects fit into the pthread objects they overlay; a `PTHREAD_COND_INITIALIZER` object
    and `PTHREAD_ONCE_INIT` ARE a fresh myth condition variable / once-control (all-zero =
    `MYTH_COND_INITIALIZER`, `myth_once_state_init`), so they need no conversion;
    `PTHREAD_CREATE_JOINABLE` is 0 and `PTHREAD_CREATE_DETACHED` is not (myth tests the detach
    state for non-zero); the barrier's serial-thread value is non-zero in both libraries; the key
    space has the system's size; a default attribute object asks for stack size 0 = the library
    default. -/
theorem C16_static_objects :
    pthreadMutexInitializerMagic ≠ mutexMagicNo ∧ pthreadMutexInitializerMagic ≠ mutexMagicInitializing ∧
    mutexMagicNo ≠ mutexMagicInitializing ∧ mutexMagicOffset = 0 ∧
    mythMutexInitializerState = 0 ∧ mythMutexInitializerType = mythMutexDefaultType ∧ mythMutexInitializerQueueZero = 1 ∧
    szMythMutex ≤ szPthreadMutex ∧ szMythCond ≤ szPthreadCond ∧ szMythBarrier ≤ szPthreadBarrier ∧
    szMythSpin ≤ szPthreadSpin ∧ szMythOnce ≤ szPthreadOnce ∧ szMythKey ≤ szPthreadKey ∧ szMythThreadT ≤ szPthreadT ∧
    pthreadCondInitializerAllZero = 1 ∧ mythCondInitializerQueueZero = 1 ∧
    pthreadOnceInit = mythOnceStateInit ∧ mythOnceStateInit = Gen.onceInit ∧
    createJoinable = 0 ∧ createDetached ≠ 0 ∧
    mythBarrierSerial ≠ 0 ∧ pthreadBarrierSerial ≠ 0 ∧
    pthreadKeysMax = Gen.tlsNKeys ∧
    defaultAttrStackSize = 0 ∧ defaultAttrDetachState = createJoinable ∧ detachedAttrDetachState = createDetached := by
  decide

/-- **attribute translation reads nothing unset**: for a non-NULL `pthread_attr_t`, whatever
    garbage the local `myth_thread_attr_t` held, after `pthread_attr_to_myth` every field that
    `myth_create_ex_body` reads is set; the detach state and the stack size are the pthread
    object's, every other field read has the library default. -/
theorem C16_attr_no_undef (garbage : Field → Option Nat) (p : PAttr) (d : Defaults) :
    let a := attrToMyth d garbage p
    (∀ f ∈ createReads, a.get f ≠ none) ∧
    a.get .detachstate = some p.detachstate ∧ a.get .stacksize = some p.stacksize ∧
    (∀ f ∈ createReads, f ≠ .detachstate → f ≠ .stacksize → a.get f = some (defaultOf d f)) := by
  refine ⟨fun f _ => ?_, attrToMyth_get .., attrToMyth_get .., fun f hf h1 h2 => ?_⟩
  · rw [attrToMyth_get]; exact Option.some_ne_none _
  · -- `stackaddr` is the third field copied, and `myth_create_ex_body` does not read it
    rw [attrToMyth_get]
    cases f
    case stackaddr => exact absurd hf (by decide)
    case stacksize => exact absurd rfl h2
    case detachstate => exact absurd rfl h1
    all_goals rfl

/-- **detach state is honoured**: a thread created from an attribute object is created detached
    iff the pthread object's detach state is non-zero; with the constants of this C library:
    `PTHREAD_CREATE_DETACHED` ⇒ detached, `PTHREAD_CREATE_JOINABLE` and a default object ⇒ joinable,
    and a default object requests the default stack. -/
theorem C16_attr_detached (garbage : Field → Option Nat) (p : PAttr) (d : Defaults) :
    createdDetached (attrToMyth d garbage p) = some (p.detachstate != 0) ∧
    (p.detachstate = createDetached → createdDetached (attrToMyth d garbage p) = some true) ∧
    (p.detachstate = createJoinable → createdDetached (attrToMyth d garbage p) = some false) ∧
    createdDetached (attrToMyth d garbage defaultPAttr) = some false ∧
    stackRequest (attrToMyth d garbage defaultPAttr) = some 0 := by
  have h : ∀ p, createdDetached (attrToMyth d garbage p) = some (p.detachstate != 0) := fun p => by
    rw [createdDetached, attrToMyth_get]; rfl
  refine ⟨h p, fun hp => ?_, fun hp => ?_, h _, ?_⟩
  · rw [h, hp]; rfl
  · rw [h, hp]; rfl
  · rw [stackRequest, attrToMyth_get]; rfl

/-- non-vacuity: `pthread_cond_timedwait` is wrapped, but its body is one of the unimplemented ones —
    which is why it is not in the supported subset -/
example : (lookup "pthread_cond_timedwait").map (·.mythFn) = some "myth_cond_timedwait_body" ∧
    "myth_cond_timedwait_body" ∈ unimplementedBodies ∧ "pthread_cond_timedwait" ∉ supported := by
  rw [lookup_code]; decide +kernel

/-- non-vacuity: the comparison is sensitive to the argument order -/
example : (fun (e : Entry) => { e with mythArgs := e.mythArgs.reverse }) <$> lookup "pthread_setspecific"
    ≠ lookup "pthread_setspecific" := by
  rw [lookup_code]; decide +kernel

end MythVerif.PthreadSpec

namespace MythVerif.SInit
open MythVerif

/-- the model's constants are the header's -/
theorem C16_static_init_constants :
    mNo = Gen.Wrap.mutexMagicNo ∧ mIni = Gen.Wrap.mutexMagicInitializing ∧ mNo ≠ mIni ∧
    Raw Gen.Wrap.pthreadMutexInitializerMagic ∧ dfltType = Gen.Wrap.mythMutexDefaultType := by
  refine ⟨rfl, rfl, mNo_ne_mIni, ⟨?_, ?_⟩, ?_⟩ <;> decide

/-- **exactly one conversion (states)**: whatever the memory held (first word `z` not a magic
    number) and however many threads first-use the object in whatever interleaving: the electing
    CAS succeeds at most once; at most one thread is ever converting; a thread is inside the mutex
    body only when the magic word is `magic_no`, which implies that exactly one conversion has
    happened and that at its publishing store the object was equal to a freshly initialised mutex;
    and until the first mutex-body access the object still equals a fresh mutex (default type,
    empty queue, state 0). -/
theorem C16_static_init_once (z a : Nat) (q : Bool) (st : Nat) (hz : Raw z) (s : St)
    (h : Reachable step (init z a q st) s) :
    s.convs ≤ 1 ∧
    (∀ t1 t2, converting (s.pc t1) = true → converting (s.pc t2) = true → t1 = t2) ∧
    (∀ t, s.pc t = .body → s.magic = mNo) ∧
    (s.magic = mNo → s.convs = 1 ∧ s.pubFresh = true) ∧
    (s.magic = mNo → s.bodySteps = 0 → s.fresh = true) := by
  have hi := reachable_inv hz s h
  refine ⟨hi.c1, ?_, hi.body, ?_, ?_⟩
  · intro t1 t2 h1 h2
    have a1 := hi.own t1 h1
    have a2 := hi.own t2 h2
    rw [a1] at a2; exact Option.some.inj a2
  · intro hm
    refine ⟨?_, hi.pub hm⟩
    have : s.convs ≠ 0 := fun e => hz.1 ((hi.c0.mp e).symm.trans hm)
    have := hi.c1; omega
  · intro hm hb
    exact (fresh_iff s).mpr (hi.fresh0 hm hb)

/-- **exactly one conversion (label sequences, no ghosts)**: in every executable label sequence at
    most one electing CAS succeeds and at most one publishing store is executed; if any thread's
    handler has returned then exactly one of each happened, and the publishing store precedes (or
    is) the label on which that handler returned. -/
theorem C16_static_init_once_trace (z a : Nat) (q : Bool) (st : Nat) (hz : Raw z) (ls : List Lbl) (s : St)
    (h : runs step (init z a q st) ls = some s) :
    ls.countP isWin ≤ 1 ∧ ls.countP isPublish ≤ 1 ∧
    (∀ pre l post, ls = pre ++ l :: post → entersBody l = true →
       (pre ++ [l]).countP isPublish = 1 ∧ (pre ++ [l]).countP isWin = 1) := by
  have hi0 := inv_init z a q st hz
  have hc := convs_runs ls _ s h
  have hr := C16_static_init_once z a q st hz s ⟨ls, h⟩
  have hp := publishes_runs hz ls _ s hi0 h
  have hz0 : (init z a q st).magic ≠ mNo := hz.1
  refine ⟨?_, ?_, ?_⟩
  · simp [init] at hc; omega
  · simp [hz0] at hp; split at hp <;> omega
  · intro pre l post hls he
    subst hls
    obtain ⟨s1, s2, h1, h2, _⟩ := runs_split step _ s pre l post h
    have hrun : runs step (init z a q st) (pre ++ [l]) = some s2 := by
      rw [runs_append, h1]; simp [runs, h2]
    have hi2 := reachable_inv hz s2 ⟨_, hrun⟩
    have hm : s2.magic = mNo := hi2.body _ (entersBody_pc s1 s2 l h2 he)
    have hp2 := publishes_runs hz (pre ++ [l]) _ s2 hi0 hrun
    have hc2 := convs_runs (pre ++ [l]) _ s2 hrun
    have hone := (C16_static_init_once z a q st hz s2 ⟨_, hrun⟩).2.2.2.1 hm
    refine ⟨?_, ?_⟩
    · simp [hz0, hm] at hp2; simpa using hp2
    · have h1 : s2.convs = 1 := hone.1
      rw [hc2] at h1; simpa [init] using h1

/-- **the converted object equals a freshly initialised mutex**: at the publishing store all four
    words have been written — default type, empty queue, state 0 — and the store makes the magic
    word `magic_no`, so the object is exactly what `myth_mutex_init(m, 0)` produces. -/
theorem C16_static_init_publishes_fresh (z a : Nat) (q : Bool) (st : Nat) (hz : Raw z) (s s' : St) (t : Tid)
    (h : Reachable step (init z a q st) s) (hs : step s (.publish t) = some s') :
    s'.magic = mNo ∧ s'.atype = dfltType ∧ s'.qEmpty = true ∧ s'.mstate = 0 ∧ s'.pc t = .body := by
  have hi := reachable_inv hz s h
  simp only [step] at hs
  split at hs
  · rename_i hp
    have hf := hi.fen t hp
    simp at hs; subst hs
    simp [hf]
  · simp at hs

/-- **nothing is converted twice, nothing overwrites a live mutex**: once the magic word is
    `magic_no` it stays so, no step changes the type, and the state word / queue are changed only
    by mutex-body accesses of threads whose handler has returned (never by a late converter). -/
theorem C16_static_init_stable (z a : Nat) (q : Bool) (st : Nat) (hz : Raw z) (s s' : St) (l : Lbl)
    (h : Reachable step (init z a q st) s) (hm : s.magic = mNo) (hs : step s l = some s') :
    s'.magic = mNo ∧ s'.atype = s.atype ∧
    ((s'.mstate ≠ s.mstate ∨ s'.qEmpty ≠ s.qEmpty) → ∃ t v b, l = .bodyStep t v b ∧ s.pc t = .body) := by
  have hi := reachable_inv hz s h
  have hmag : s'.magic = mNo := by
    rcases magic_step hz s s' l hi hs with ⟨_, b, _⟩ | ⟨_, b⟩
    · exact absurd hm b
    · exact b.mpr hm
  rcases step_writes s s' l hs with ⟨ha, hst, hq⟩ | ⟨t, w, _, hc⟩ | ⟨ha, hb⟩
  · exact ⟨hmag, ha, fun hch => by simp [hst, hq] at hch⟩
  · -- a word store of `*m = mi`: nobody is converting once the magic word is `magic_no`
    have := (hi.ini t (hi.own t hc)).mp hc
    exact absurd (hm.symm.trans this) mNo_ne_mIni
  · exact ⟨hmag, ha, fun _ => hb⟩

/-- the assertion after the wait loop never fails: the value it reads is `magic_no` -/
theorem C16_static_init_assert_holds (z a : Nat) (q : Bool) (st : Nat) (hz : Raw z) (s s' : St) (t : Tid) (v : Nat)
    (h : Reachable step (init z a q st) s) (hs : step s (.assertRead t v) = some s') : v = mNo := by
  have hi := reachable_inv hz s h
  simp only [step] at hs
  split at hs
  · rename_i hc; rw [hc.1]; exact hi.chk t hc.2
  · simp at hs

/-- a converting thread has an enabled step that decreases `remaining`, and if that brings
    `remaining` to 0 then `magic_no` is published -/
theorem conv_progress (s : St) (w : Tid) (hconv : converting (s.pc w) = true) :
    ∃ l s', l.actor = w ∧ step s l = some s' ∧ remaining (s'.pc w) < remaining (s.pc w) ∧
      (remaining (s'.pc w) = 0 → s'.magic = mNo) := by
  cases hp : s.pc w with
  | won a q st m =>
    -- the next word of `*m = mi` not yet stored, in the order attribute, queue, state, magic
    cases a with
    | false => exact ⟨.copyWord w .attr, _, rfl, by simp [step, hp]; rfl, by simp [remaining], by simp [remaining]⟩
    | true =>
    cases q with
    | false => exact ⟨.copyWord w .queue, _, rfl, by simp [step, hp]; rfl, by simp [remaining], by simp [remaining]⟩
    | true =>
    cases st with
    | false => exact ⟨.copyWord w .state, _, rfl, by simp [step, hp]; rfl, by simp [remaining], by simp [remaining]⟩
    | true =>
    cases m with
    | false => exact ⟨.copyWord w .magic, _, rfl, by simp [step, hp]; rfl, by simp [remaining], by simp [remaining]⟩
    | true => exact ⟨.fence w, _, rfl, by simp [step, hp]; rfl, by simp [remaining], by simp [remaining]⟩
  | fenced => exact ⟨.publish w, _, rfl, by simp [step, hp]; rfl, by simp [remaining], by simp⟩
  | idle | rd _ | spin | chk | body => simp [hp, converting] at hconv

/-- **stuck-freedom (1): nobody is ever disabled.**  In every state every thread has an enabled
    step: the waiters spin, they do not block. -/
theorem C16_static_init_never_disabled (s : St) (t : Tid) : ∃ l, l.actor = t ∧ (step s l).isSome = true := by
  cases hp : s.pc t with
  | idle => exact ⟨.read t s.magic, rfl, by simp [step, hp]; split <;> rfl⟩
  | rd v =>
    by_cases hv : v = mIni
    · exact ⟨.skipCas t, rfl, by simp [step, hp, hv]⟩
    · refine ⟨.cas t (decide (s.magic = v)), rfl, ?_⟩
      simp only [step, hp]
      by_cases hm : s.magic = v <;> simp [hv, hm]
  | won _ _ _ _ | fenced =>
    obtain ⟨l, s', hl, hs, _⟩ := conv_progress s t (by rw [hp]; rfl)
    exact ⟨l, hl, by rw [hs]; rfl⟩
  | spin => exact ⟨.spinRead t s.magic, rfl, by simp [step, hp]; split <;> rfl⟩
  | chk => exact ⟨.assertRead t s.magic, rfl, by simp [step, hp]⟩
  | body => exact ⟨.leave t, rfl, by simp [step, hp]⟩

/-- **stuck-freedom (2): waiters have hope.**  Whenever the magic word reads `initializing` (which
    is what keeps a waiter in its loop) there is a converter that is not the waiter, with at most
    6 steps remaining, and it has an enabled step that decreases `remaining`; when that brings
    `remaining` to 0, `magic_no` is published. -/
theorem C16_static_init_waiters_have_hope (z a : Nat) (q : Bool) (st : Nat) (hz : Raw z) (s : St)
    (h : Reachable step (init z a q st) s) (hm : s.magic = mIni) :
    ∃ w, s.converter = some w ∧ converting (s.pc w) = true ∧ remaining (s.pc w) ≤ 6 ∧
      (∀ t, s.pc t = .spin ∨ (∃ v, s.pc t = .rd v) → t ≠ w) ∧
      ∃ l s', l.actor = w ∧ step s l = some s' ∧ remaining (s'.pc w) < remaining (s.pc w) ∧
        (remaining (s'.pc w) = 0 → s'.magic = mNo) := by
  have hi := reachable_inv hz s h
  have hne := mNo_ne_mIni
  have hc : s.convs ≠ 0 := fun e => hz.2 ((hi.c0.mp e).symm.trans hm)
  cases hcv : s.converter with
  | none => exact absurd (hi.cv0.mp hcv) hc
  | some w =>
    have hconv : converting (s.pc w) = true := (hi.ini w hcv).mpr hm
    refine ⟨w, rfl, hconv, ?_, ?_, ?_⟩
    · cases hp : s.pc w <;> simp [hp, converting] at hconv <;> simp [remaining]
      rename_i a q st m
      cases a <;> cases q <;> cases st <;> cases m <;> simp
    · intro t ht heq
      subst heq
      rcases ht with ht | ⟨v, ht⟩ <;> simp [ht, converting] at hconv
    · exact conv_progress s w hconv

/-- once `magic_no` is published a waiter leaves the handler within its next two own steps -/
theorem C16_static_init_waiters_released (s : St) (t : Tid) (hm : s.magic = mNo) (hp : s.pc t = .spin) :
    ∃ s1 s2, step s (.spinRead t mNo) = some s1 ∧ step s1 (.assertRead t mNo) = some s2 ∧ s2.pc t = .body := by
  have hne := mNo_ne_mIni
  refine ⟨{ s with pc := upd s.pc t .chk }, { s with pc := upd (upd s.pc t .chk) t .body }, ?_, ?_, ?_⟩
  · simp [step, hm, hp, hne]
  · simp [step, hm]
  · simp

/-- non-vacuity: a zero-filled object; threads 1 and 2 both read 0, thread 1 wins the CAS and copies
    (state word first), thread 3 arrives and reads `initializing`, thread 2 loses its CAS; both wait … -/
example :
    ((runs step (init 0 7 false 9)
      [.read 1 0, .read 2 0, .cas 1 true, .copyWord 1 .state, .read 3 mIni, .cas 2 false, .skipCas 3,
       .spinRead 2 mIni, .copyWord 1 .attr, .copyWord 1 .magic, .copyWord 1 .queue, .spinRead 3 mIni]).map
        (fun s => (s.magic == mIni, s.convs, s.pc 2, s.pc 3, s.pc 1))) =
      some (true, 1, .spin, .spin, .won true true true true) := by decide

/-- … the converter publishes, the waiters leave, everybody works on a fresh mutex, a later caller is immediate -/
example :
    ((runs step (init 0 7 false 9)
      [.read 1 0, .read 2 0, .cas 1 true, .copyWord 1 .state, .read 3 mIni, .cas 2 false, .skipCas 3,
       .spinRead 2 mIni, .copyWord 1 .attr, .copyWord 1 .magic, .copyWord 1 .queue, .spinRead 3 mIni,
       .fence 1, .publish 1, .spinRead 2 mNo, .assertRead 2 mNo, .spinRead 3 mNo, .assertRead 3 mNo,
       .bodyStep 1 1 true, .leave 1, .read 4 mNo]).map
        (fun s => (s.magic == mNo && s.pubFresh && s.convs == 1, s.mstate, s.pc 2, s.pc 3, s.pc 4))) =
      some (true, 1, .body, .body, .body) := by decide

/-- the model refuses a second conversion and a body access before publication -/
example : (runs step (init 0 7 false 9) [.read 1 0, .read 2 0, .cas 1 true, .cas 2 true]).isNone = true ∧
    (runs step (init 0 7 false 9) [.read 1 0, .cas 1 true, .bodyStep 1 1 true]).isNone = true := by decide

end MythVerif.SInit

namespace MythVerif.PthProg

/-- **determinate fragment**: for every fork-join program over lock-protected commutative counter
    updates, every complete execution of the abstract interface — `fork` lets the child run at any
    point before its join, any thread that can move may move, a lock-protected update is one atomic
    section — from every initial store ends with the return value and the counters that the
    sequential evaluator `eval` computes. -/
theorem C16_eval_determinate (p : Prog) (σ σ' : Store) (v : Int)
    (h : Steps (p, σ) (.ret v, σ')) : (v, σ') = eval p σ := by
  have hp := steps_preserve _ _ h
  simp only [val, delta] at hp
  have hσ : σ' = fun i => σ i + delta p i := by
    funext i; have := hp.2 i; omega
  simp [eval, hp.1, hσ]

/-- complete executions exist, every execution is finite (at most `size p` steps remain, each step
    strictly decreases `size`), and an execution that cannot continue is complete: the fragment has
    no deadlock and no divergence, so "the result" is defined and is `eval p`. -/
theorem C16_fragment_terminates (p : Prog) (σ : Store) :
    (∃ v σ', Steps (p, σ) (.ret v, σ')) ∧
    (∀ p' σ', Steps (p, σ) (p', σ') → size p' ≤ size p) ∧
    (∀ x y, Step x y → size y.1 < size x.1) ∧
    (∀ p' σ', Steps (p, σ) (p', σ') → (∀ y, ¬ Step (p', σ') y) → ∃ v, p' = .ret v ∧ (v, σ') = eval p σ) := by
  refine ⟨complete_exists p σ, ?_, step_size, ?_⟩
  · intro p' σ' h; exact steps_length _ _ h
  · intro p' σ' h hstuck
    rcases progress p' σ' with ⟨v, rfl⟩ | ⟨p'', σ'', hs⟩
    · exact ⟨v, rfl, C16_eval_determinate p σ σ' v h⟩
    · exact absurd hs (hstuck _)

/-- non-vacuity: two children and the parent add to the same counter; two different interleavings,
    same result, equal to `eval` -/
example : eval (.fork (.seq (.add 0 2) (.ret 5)) (.fork (.add 0 3) (.add 1 4))) (fun _ => 0) =
    (5, fun i => (0 : Int) + (((if i = 0 then 2 else 0) + 0) + ((if i = 0 then 3 else 0) + (if i = 1 then 4 else 0)))) := rfl

example : ∃ σ', Steps (.fork (.add 0 2) (.add 0 3), fun _ => 0) (.ret 0, σ') ∧ σ' 0 = 5 := by
  refine ⟨_, Steps.cons _ _ _ (Step.fork _ _ _) (Steps.cons _ _ _ (Step.parR _ _ _ _ _ (Step.add 0 3 _))
    (Steps.cons _ _ _ (Step.parL _ _ _ _ _ (Step.add 0 2 _)) (Steps.cons _ _ _ (Step.join 0 0 _) (Steps.refl _)))), ?_⟩
  simp [Store.bump]

end MythVerif.PthProg

/-! ## extension of the determinate fragment: monotone gates (condition-variable pattern)

`MythVerif.PthGate.GProg` = `Prog` + `post g n` (lock; gate[g] += n; broadcast; unlock — one atomic
section) + `await g n` (lock; while (gate[g] < n) cond_wait; unlock — enabled only when
`gate[g] ≥ n`).  Unlike the gate-free fragment such a program may deadlock, so the statement is:
**whenever it terminates the result is `geval p`**, gates only grow, there is no divergence, and
the only way not to terminate is a deadlock (every remaining thread at an `await` below its
threshold). -/

namespace MythVerif.PthGate
open MythVerif.PthProg (Store Store.bump)

/-- **determinate fragment with gates**: for every fork-join program over lock-protected
    commutative counter updates and monotone gates, from every initial counters `σ` and gates `γ`,
    every complete execution of the abstract interface ends with the return value `gval p`, the
    counters `σ + gdelta p` and the gates `γ + gposts p` (`= geval p σ γ`; awaits contribute
    nothing); hence ANY two complete executions end with the same value, the same counters and the
    same gate values: the result is determinate whenever the program terminates. -/
theorem C16_eval_determinate_gates (p : GProg) (σ : Store) (γ : Gates) :
    (∀ v σ' γ', Steps (p, σ, γ) (.ret v, σ', γ') →
      (v, σ', γ') = geval p σ γ ∧
      v = gval p ∧ (∀ i, σ' i = σ i + gdelta p i) ∧ (∀ g, γ' g = γ g + gposts p g)) ∧
    (∀ v v' σ₁ σ₂ γ₁ γ₂, Steps (p, σ, γ) (.ret v, σ₁, γ₁) → Steps (p, σ, γ) (.ret v', σ₂, γ₂) →
      v = v' ∧ σ₁ = σ₂ ∧ γ₁ = γ₂) := by
  -- two complete executions both end in `geval p σ γ`
  suffices main : _ from ⟨main, fun v v' σ₁ σ₂ γ₁ γ₂ h1 h2 => by
    simpa only [Prod.mk.injEq] using (main v σ₁ γ₁ h1).1.trans (main v' σ₂ γ₂ h2).1.symm⟩
  intro v σ' γ' h
  have hp := steps_preserve _ _ h
  simp only [gval, gdelta, gposts] at hp
  have hσ : ∀ i, σ' i = σ i + gdelta p i := by intro i; have := hp.2.1 i; omega
  have hγ : ∀ g, γ' g = γ g + gposts p g := by intro g; have := hp.2.2 g; omega
  refine ⟨?_, hp.1, hσ, hγ⟩
  rw [geval, hp.1, ← funext hσ, ← funext hγ]

/-- **gates are monotone**: along every execution no gate ever decreases — so an `await` whose
    threshold has been reached stays enabled until it is taken (a broadcast is never "lost") — and
    a gate never exceeds its initial value plus what the program posts
    (`gate + remaining posts` is invariant). -/
theorem C16_gates_monotone (p p' : GProg) (σ σ' : Store) (γ γ' : Gates)
    (h : Steps (p, σ, γ) (p', σ', γ')) :
    (∀ g, γ g ≤ γ' g) ∧
    (∀ g n, n ≤ γ g → n ≤ γ' g) ∧
    (∀ g, γ' g + gposts p' g = γ g + gposts p g) ∧
    (∀ g, γ' g ≤ γ g + gposts p g) := by
  have hm := steps_gates_mono _ _ h
  have hp := (steps_preserve _ _ h).2.2
  refine ⟨hm, ?_, hp, ?_⟩
  · intro g n hn; exact Nat.le_trans hn (hm g)
  · intro g; have := hp g; simp only at this; omega

/-- **the only way not to terminate is a deadlock**: every step strictly decreases `gsize`, so
    every execution from `p` has at most `gsize p` steps and there is no infinite execution (no
    divergence); and a reachable configuration that has no step is either complete — and then its
    result is `geval p σ γ` — or `Blocked`: it is not finished and every remaining thread is at an
    `await` whose gate is below its threshold (there is at least one such thread).  Conversely a
    `Blocked` configuration is indeed stuck and not final. -/
theorem C16_gates_stuck_is_deadlock (p : GProg) (σ : Store) (γ : Gates) :
    (∀ x y, Step x y → gsize y.1 < gsize x.1) ∧
    (∀ p' σ' γ', Steps (p, σ, γ) (p', σ', γ') → gsize p' ≤ gsize p) ∧
    (¬ ∃ f : Nat → Cfg, f 0 = (p, σ, γ) ∧ ∀ n, Step (f n) (f (n + 1))) ∧
    (∀ p' σ' γ', Steps (p, σ, γ) (p', σ', γ') → (∀ y, ¬ Step (p', σ', γ') y) →
      (∃ v, p' = .ret v ∧ (v, σ', γ') = geval p σ γ) ∨
      ((∀ v, p' ≠ .ret v) ∧ Blocked γ' p' ∧ waits p' ≠ [] ∧ ∀ gn ∈ waits p', γ' gn.1 < gn.2)) ∧
    (∀ p' σ' γ', Blocked γ' p' → (∀ y, ¬ Step (p', σ', γ') y) ∧ ∀ v, p' ≠ .ret v) := by
  refine ⟨step_size, ?_, ?_, ?_, ?_⟩
  · intro p' σ' γ' h; exact steps_length _ _ h
  · rintro ⟨f, _, hf⟩; exact no_infinite_run f hf
  · intro p' σ' γ' h hstuck
    rcases progress p' σ' γ' with ⟨v, rfl⟩ | hb | ⟨y, hs⟩
    · exact Or.inl ⟨v, rfl, ((C16_eval_determinate_gates p σ γ).1 v σ' γ' h).1⟩
    · refine Or.inr ⟨?_, hb, blocked_waits γ' p' hb⟩
      intro v hv; subst hv; exact blocked_not_ret γ' v hb
    · exact absurd hs (hstuck _)
  · intro p' σ' γ' hb
    refine ⟨fun y => blocked_no_step γ' p' hb σ' y, ?_⟩
    intro v hv; subst hv; exact blocked_not_ret γ' v hb

/-- non-vacuity: the child adds to a counter and posts, the parent awaits the gate and returns 7.
    A complete execution exists (the child's post first, then the parent's await) and its result
    is the formula. -/
example : ∃ v σ' γ',
    Steps (.fork (.seq (.add 0 2) (.post 0 1)) (.seq (.await 0 1) (.ret 7)), fun _ => 0, fun _ => 0) (.ret v, σ', γ') ∧
    v = 7 ∧ σ' 0 = 2 ∧ γ' 0 = 1 ∧ γ' 1 = 0 ∧
    (v, σ', γ') = geval (.fork (.seq (.add 0 2) (.post 0 1)) (.seq (.await 0 1) (.ret 7))) (fun _ => 0) (fun _ => 0) := by
  let σ0 : Store := fun _ => 0
  let γ0 : Gates := fun _ => 0
  have hg : 1 ≤ (γ0.bump 0 1) 0 := by simp [Gates.bump, γ0]
  have h : Steps (.fork (.seq (.add 0 2) (.post 0 1)) (.seq (.await 0 1) (.ret 7)), σ0, γ0)
      (.ret (0 + 0 + (0 + 7)), σ0.bump 0 2, γ0.bump 0 1) :=
    Steps.cons _ _ _ (Step.fork _ _ _ _)
    (Steps.cons _ _ _ (Step.parL _ _ _ _ _ _ _ (Step.seqL _ _ _ _ _ _ _ (Step.add 0 2 σ0 γ0)))
    (Steps.cons _ _ _ (Step.parL _ _ _ _ _ _ _ (Step.seqR _ _ _ _ _ _ _ (Step.post 0 1 (σ0.bump 0 2) γ0)))
    (Steps.cons _ _ _ (Step.parL _ _ _ _ _ _ _ (Step.seqDone 0 0 _ _))
    (Steps.cons _ _ _ (Step.parR _ _ _ _ _ _ _ (Step.seqL _ _ _ _ _ _ _ (Step.await 0 1 (σ0.bump 0 2) (γ0.bump 0 1) hg)))
    (Steps.cons _ _ _ (Step.parR _ _ _ _ _ _ _ (Step.seqDone 0 7 _ _))
    (Steps.cons _ _ _ (Step.join (0 + 0) (0 + 7) _ _) (Steps.refl _)))))))
  refine ⟨_, _, _, h, by decide, by simp [Store.bump, σ0], by simp [Gates.bump, γ0], by simp [Gates.bump, γ0], ?_⟩
  exact ((C16_eval_determinate_gates _ _ _).1 _ _ _ h).1

/-- non-vacuity: before the child's post the parent's await is not enabled — the parent thread
    alone cannot move (only the child can) -/
example (σ : Store) (y : Cfg) : ¬ Step (.seq (.await 0 1) (.ret 7), σ, fun _ => 0) y :=
  blocked_no_step _ _ (Blocked.seqL _ _ (Blocked.await 0 1 (by decide))) σ y

/-- non-vacuity: a deadlock — an await with no post (the post comes after the await in the same
    thread, and the child awaits a gate nobody posts): stuck, not final, every thread at an await -/
example (σ : Store) :
    let p : GProg := .par (.await 1 1) (.seq (.await 0 1) (.post 0 1))
    (∀ y, ¬ Step (p, σ, fun _ => 0) y) ∧ (∀ v, p ≠ .ret v) ∧ Blocked (fun _ => 0) p ∧
    waits p = [(1, 1), (0, 1)] ∧
    -- and it is reachable from a `fork`
    Steps (.fork (.await 1 1) (.seq (.await 0 1) (.post 0 1)), σ, fun _ => 0) (p, σ, fun _ => 0) := by
  intro p
  have hb : Blocked (fun _ => 0) p :=
    Blocked.parLR _ _ (Blocked.await 1 1 (by decide)) (Blocked.seqL _ _ (Blocked.await 0 1 (by decide)))
  refine ⟨fun y => blocked_no_step _ _ hb σ y, ?_, hb, rfl, Steps.cons _ _ _ (Step.fork _ _ _ _) (Steps.refl _)⟩
  intro v; simp [p]

/-- non-vacuity: the simplest deadlock, `await` alone -/
example (σ : Store) : (∀ y, ¬ Step (.await 0 1, σ, fun _ => 0) y) ∧ (∀ v, GProg.await 0 1 ≠ .ret v) := by
  refine ⟨?_, by intro v h; cases h⟩
  intro y h
  cases h with
  | await _ _ _ _ hle => simp at hle

end MythVerif.PthGate

/-! ## extension of the determinate fragment: one-time initialisation (`pthread_once`)

`MythVerif.PthOnce.OProg` = `GProg` + `once k` (`pthread_once(&control[k], routine[k])`): every
control `k` has one fixed routine `init k`, a list of lock-protected counter updates.  `once k`
on a control that is not done runs the whole routine in ONE atomic step and marks the control done
(no caller returns before the routine has completed); on a done control it is a no-op.  The
statement: **whenever the program terminates, the routine of every control it mentions (and that was
not done initially) has been counted exactly once**, however many callers there are and in whatever
order they run — so the result is the closed formula `oeval` and any two complete executions agree. -/

namespace MythVerif.PthOnce
open MythVerif.PthProg (Store Store.bump)
open MythVerif.PthGate (Gates Gates.bump)

/-- what `ocontrib` is: the sum, over the duplicate-free list `dedup (onces p)` of the controls `p`
    mentions — a list with exactly the elements of `onces p`, each once — of the effect of the
    routines of those that are not done; a control mentioned by many calls is counted once, a done
    control is not counted, and a program without `once` has no contribution. -/
theorem C16_once_contrib_spec (init : Nat → List (Nat × Int)) (p : OProg) (done : Nat → Bool) :
    (dedup (onces p)).Nodup ∧ (∀ k, k ∈ dedup (onces p) ↔ k ∈ onces p) ∧
    (∀ i, ocontrib init p done i = initSum init (fun k => !done k) (dedup (onces p)) i) ∧
    (∀ f i, initSum init f [] i = 0) ∧
    (∀ f k L i, initSum init f (k :: L) i = (if f k then ieff (init k) i else 0) + initSum init f L i) ∧
    ((∀ k ∈ onces p, done k = true) → ∀ i, ocontrib init p done i = 0) ∧
    (∀ l σ i, applyInit l σ i = σ i + ieff l i) :=
  ⟨nodup_dedup _, mem_dedup _, fun _ => rfl, fun _ _ => rfl, fun _ _ _ _ => rfl,
   fun h i => initSum_none _ _ (fun k hk => by simp [h k ((mem_dedup _ k).mp hk)]) i, applyInit_eq⟩

/-- **determinate fragment with one-time initialisation**: for every fork-join program over
    lock-protected commutative counter updates, monotone gates and once-controls (routines `init`),
    from every initial counters `σ`, gates `γ` and once-controls `done₀`, every complete execution of
    the abstract interface ends with the return value `oval p`, the gates `γ + oposts p`, the
    controls `done₀ ∪ onces p` and the counters
    `σ + odelta p + Σ_{k ∈ onces p, done₀ k = false} (updates of init k)` (`= oeval init p σ γ done₀`)
    — the routine of a control is counted exactly once however many callers there are and in
    whatever order they run; hence ANY two complete executions end with the same value, counters,
    gates, once-controls (and run counters). -/
theorem C16_eval_determinate_once (init : Nat → List (Nat × Int)) (p : OProg) (σ : Store) (γ : Gates)
    (done₀ : Nat → Bool) (runs₀ : Nat → Nat) :
    (∀ v s', Steps init (p, ⟨σ, γ, done₀, runs₀⟩) (.ret v, s') →
      (v, s'.cnt, s'.gates, s'.done) = oeval init p σ γ done₀ ∧
      v = oval p ∧
      (∀ i, s'.cnt i = σ i + odelta p i + ocontrib init p done₀ i) ∧
      (∀ g, s'.gates g = γ g + oposts p g) ∧
      (∀ k, s'.done k = (done₀ k || decide (k ∈ onces p))) ∧
      (∀ k, s'.runs k = runs₀ k + (if !done₀ k && decide (k ∈ onces p) then 1 else 0))) ∧
    (∀ v v' s₁ s₂, Steps init (p, ⟨σ, γ, done₀, runs₀⟩) (.ret v, s₁) →
      Steps init (p, ⟨σ, γ, done₀, runs₀⟩) (.ret v', s₂) →
      v = v' ∧ s₁.cnt = s₂.cnt ∧ s₁.gates = s₂.gates ∧ s₁.done = s₂.done ∧ s₁.runs = s₂.runs) := by
  -- two complete executions both end in the state the closed formula gives
  suffices main : _ from ⟨main, fun v v' s₁ s₂ h1 h2 => by
    obtain ⟨_, a2, a3, a4, a5, a6⟩ := main v s₁ h1
    obtain ⟨_, b2, b3, b4, b5, b6⟩ := main v' s₂ h2
    exact ⟨a2.trans b2.symm, funext fun i => (a3 i).trans (b3 i).symm,
      funext fun g => (a4 g).trans (b4 g).symm, funext fun k => (a5 k).trans (b5 k).symm,
      funext fun k => (a6 k).trans (b6 k).symm⟩⟩
  intro v s' h
  obtain ⟨c1, c2, c3, c4, _, c6⟩ := steps_char _ _ h
  simp only [oval, oposts, onces, odelta] at c1 c2 c3 c4 c6
  have hd : ∀ k, s'.done k = (done₀ k || decide (k ∈ onces p)) := by
    intro k; have := c4 k; simpa using this
  have hσ : ∀ i, s'.cnt i = σ i + odelta p i + ocontrib init p done₀ i := by
    intro i
    -- at the end the controls that became done are the mentioned ones that were not done
    have := c3 (dedup (onces p)) (nodup_dedup _)
      (fun k hk hk0 => (mem_dedup _ k).mpr (by simpa [hd k, hk0] using hk)) i
    rw [initSum_congr _ (fun k => !done₀ k) _ (fun k hk => by simp [hd k, (mem_dedup _ k).mp hk])] at this
    simp only [ocontrib]
    omega
  have hγ : ∀ g, s'.gates g = γ g + oposts p g := by intro g; have := c2 g; omega
  have hr : ∀ k, s'.runs k = runs₀ k + (if !done₀ k && decide (k ∈ onces p) then 1 else 0) := by
    intro k
    rw [c6 k, hd k]
    rcases Bool.eq_false_or_eq_true (done₀ k) with e | e <;> simp [e]
  refine ⟨?_, c1, hσ, hγ, hd, hr⟩
  simp only [oeval, Prod.mk.injEq]
  exact ⟨c1, funext hσ, funext hγ, funext hd⟩

/-- **the routine runs at most once**: the ghost counter `runs k` is incremented by the atomic
    initialisation step of control `k` and by nothing else.  Along every execution (complete or not)
    from run counters 0: `runs k ≤ 1`; `runs k = 1` exactly when the control is done now and was
    not done initially; a control that was done initially or that the program does not mention is
    never run; `done` only grows and stays within `done₀ ∪ onces p`; and the routine's effect on
    the counters is accounted exactly `runs k` times:
    `counters + remaining adds = σ + odelta p + Σ_k runs k · init k`. -/
theorem C16_once_runs_once (init : Nat → List (Nat × Int)) (p p' : OProg) (σ : Store) (γ : Gates)
    (done₀ : Nat → Bool) (s' : St)
    (h : Steps init (p, ⟨σ, γ, done₀, fun _ => 0⟩) (p', s')) :
    (∀ k, s'.runs k ≤ 1) ∧
    (∀ k, s'.runs k = 1 ↔ (s'.done k = true ∧ done₀ k = false)) ∧
    (∀ k, done₀ k = true → s'.done k = true ∧ s'.runs k = 0) ∧
    (∀ k, k ∉ onces p → s'.done k = done₀ k ∧ s'.runs k = 0) ∧
    (∀ k, s'.done k = true → done₀ k = true ∨ k ∈ onces p) ∧
    (∀ (s : St) (k : Nat), (s.fire init k).runs k = s.runs k + 1 ∧ (s.fire init k).done k = true ∧
      ∀ j, j ≠ k → (s.fire init k).runs j = s.runs j) ∧
    (∀ i, s'.cnt i + odelta p' i =
      σ i + odelta p i + initSum init (fun k => decide (s'.runs k = 1)) (dedup (onces p)) i) := by
  obtain ⟨_, _, c3, c4, c5, c6⟩ := steps_char _ _ h
  simp only at c3 c4 c5 c6
  have hr : ∀ k, s'.runs k = if s'.done k && !done₀ k then 1 else 0 := by
    intro k; have := c6 k; omega
  have hnot : ∀ k, k ∉ onces p → s'.done k = done₀ k := by
    intro k hk
    have h4 := c4 k
    cases hd : done₀ k
    · cases hs : s'.done k
      · rfl
      · simp [hd, hs, hk] at h4
    · exact c5 k hd
  have hmem : ∀ k, s'.done k = true → done₀ k = false → k ∈ onces p := by
    intro k hk hk0
    by_cases hm : k ∈ onces p
    · exact hm
    · simp [hnot k hm, hk0] at hk
  refine ⟨?_, ?_, ?_, ?_, ?_, ?_, ?_⟩
  · intro k; rw [hr k]; split <;> omega
  · intro k; rw [hr k]; cases s'.done k <;> cases done₀ k <;> simp
  · intro k hk; refine ⟨c5 k hk, ?_⟩; rw [hr k]; simp [hk]
  · intro k hk; refine ⟨hnot k hk, ?_⟩; rw [hr k, hnot k hk]; cases done₀ k <;> simp
  · intro k hk
    cases hd : done₀ k
    · exact Or.inr (hmem k hk hd)
    · exact Or.inl rfl
  · intro s k
    refine ⟨by simp [St.fire], by simp [St.fire], ?_⟩
    intro j hj; simp [St.fire, hj]
  · intro i
    rw [c3 (dedup (onces p)) (nodup_dedup _) (fun k hk hk0 => (mem_dedup _ k).mpr (hmem k hk hk0)) i]
    congr 1
    exact initSum_congr _ _ _ (fun k _ => by rw [hr k]; cases s'.done k <;> cases done₀ k <;> simp) i

/-- **the only way not to terminate is a deadlock** (as for the gate fragment; a `once` never
    blocks): every step strictly decreases `osize`, there is no infinite execution, and a reachable
    configuration that has no step is either complete — and then its result is `oeval` — or
    `Blocked`: not finished and every remaining thread at an `await` below its threshold.
    Conversely a `Blocked` configuration is stuck and not final. -/
theorem C16_once_stuck_is_deadlock (init : Nat → List (Nat × Int)) (p : OProg) (σ : Store) (γ : Gates)
    (done₀ : Nat → Bool) (runs₀ : Nat → Nat) :
    (∀ x y, Step init x y → osize y.1 < osize x.1) ∧
    (∀ p' s', Steps init (p, ⟨σ, γ, done₀, runs₀⟩) (p', s') → osize p' ≤ osize p) ∧
    (¬ ∃ f : Nat → Cfg, f 0 = (p, ⟨σ, γ, done₀, runs₀⟩) ∧ ∀ n, Step init (f n) (f (n + 1))) ∧
    (∀ p' s', Steps init (p, ⟨σ, γ, done₀, runs₀⟩) (p', s') → (∀ y, ¬ Step init (p', s') y) →
      (∃ v, p' = .ret v ∧ (v, s'.cnt, s'.gates, s'.done) = oeval init p σ γ done₀) ∨
      ((∀ v, p' ≠ .ret v) ∧ Blocked s'.gates p')) ∧
    (∀ p' s', Blocked s'.gates p' → (∀ y, ¬ Step init (p', s') y) ∧ ∀ v, p' ≠ .ret v) ∧
    (∀ k s, ∃ y, Step init (.once k, s) y) := by
  refine ⟨step_size, ?_, ?_, ?_, ?_, ?_⟩
  · intro p' s' h; exact steps_length _ _ h
  · rintro ⟨f, _, hf⟩; exact no_infinite_run f hf
  · intro p' s' h hstuck
    rcases progress (init := init) p' s' with ⟨v, rfl⟩ | hb | ⟨y, hs⟩
    · exact Or.inl ⟨v, rfl, ((C16_eval_determinate_once init p σ γ done₀ runs₀).1 v s' h).1⟩
    · refine Or.inr ⟨?_, hb⟩
      intro v hv; subst hv; exact blocked_not_ret _ v hb
    · exact absurd hs (hstuck _)
  · intro p' s' hb
    refine ⟨fun y => blocked_no_step p' s' hb y, ?_⟩
    intro v hv; subst hv; exact blocked_not_ret _ v hb
  · intro k s
    rcases progress (init := init) (.once k) s with ⟨v, hv⟩ | hb | hs
    · cases hv
    · cases hb
    · exact hs

/-! non-vacuity: two children and the parent all call `once 0`; the routine of control 0 adds 5 to
    counter 0 and 2 to counter 1 -/

/-- the routines of the examples -/
def exInit : Nat → List (Nat × Int)
  | 0 => [(0, 5), (1, 2)]
  | _ => []

/-- two children and the parent call `once 0`; the parent then adds 1 to counter 0 -/
def exProg : OProg := .fork (.once 0) (.fork (.once 0) (.seq (.once 0) (.add 0 1)))

/-- the initial state of the examples: everything zero, no control done -/
def exS0 : St := ⟨fun _ => 0, fun _ => 0, fun _ => false, fun _ => 0⟩

/-- interleaving A: the FIRST CHILD wins the race and runs the routine; the second child and the
    parent find the control done -/
theorem exRunA : ∃ s', Steps exInit (exProg, exS0) (.ret (0 + (0 + (0 + 0))), s') ∧
    s'.cnt 0 = 6 ∧ s'.cnt 1 = 2 ∧ s'.done 0 = true ∧ s'.runs 0 = 1 := by
  let s1 : St := exS0.fire exInit 0
  let s2 : St := { s1 with cnt := s1.cnt.bump 0 1 }
  have d0 : exS0.done 0 = false := rfl
  have d1 : s1.done 0 = true := by simp [s1, St.fire]
  have h : Steps exInit (exProg, exS0) (.ret (0 + (0 + (0 + 0))), s2) :=
    Steps.cons _ _ _ (Step.fork _ _ _)
    (Steps.cons _ _ _ (Step.parR _ _ _ _ _ (Step.fork _ _ _))
    (Steps.cons _ _ _ (Step.parL _ _ _ _ _ (Step.onceRun 0 exS0 d0))
    (Steps.cons _ _ _ (Step.parR _ _ _ _ _ (Step.parL _ _ _ _ _ (Step.onceSkip 0 s1 d1)))
    (Steps.cons _ _ _ (Step.parR _ _ _ _ _ (Step.parR _ _ _ _ _ (Step.seqL _ _ _ _ _ (Step.onceSkip 0 s1 d1))))
    (Steps.cons _ _ _ (Step.parR _ _ _ _ _ (Step.parR _ _ _ _ _ (Step.seqR _ _ _ _ _ (Step.add 0 1 s1))))
    (Steps.cons _ _ _ (Step.parR _ _ _ _ _ (Step.parR _ _ _ _ _ (Step.seqDone 0 0 _)))
    (Steps.cons _ _ _ (Step.parR _ _ _ _ _ (Step.join 0 (0 + 0) _))
    (Steps.cons _ _ _ (Step.join 0 (0 + (0 + 0)) _) (Steps.refl _)))))))))
  refine ⟨s2, h, ?_, ?_, ?_, ?_⟩ <;>
    simp [s2, s1, St.fire, exS0, exInit, applyInit, Store.bump]

/-- interleaving B: the PARENT wins the race and runs the routine, then adds; both children find
    the control done (the first child last) -/
theorem exRunB : ∃ s', Steps exInit (exProg, exS0) (.ret (0 + (0 + (0 + 0))), s') ∧
    s'.cnt 0 = 6 ∧ s'.cnt 1 = 2 ∧ s'.done 0 = true ∧ s'.runs 0 = 1 := by
  let s1 : St := exS0.fire exInit 0
  let s2 : St := { s1 with cnt := s1.cnt.bump 0 1 }
  have d0 : exS0.done 0 = false := rfl
  have d2 : s2.done 0 = true := by simp [s2, s1, St.fire]
  have h : Steps exInit (exProg, exS0) (.ret (0 + (0 + (0 + 0))), s2) :=
    Steps.cons _ _ _ (Step.fork _ _ _)
    (Steps.cons _ _ _ (Step.parR _ _ _ _ _ (Step.fork _ _ _))
    (Steps.cons _ _ _ (Step.parR _ _ _ _ _ (Step.parR _ _ _ _ _ (Step.seqL _ _ _ _ _ (Step.onceRun 0 exS0 d0))))
    (Steps.cons _ _ _ (Step.parR _ _ _ _ _ (Step.parR _ _ _ _ _ (Step.seqR _ _ _ _ _ (Step.add 0 1 s1))))
    (Steps.cons _ _ _ (Step.parR _ _ _ _ _ (Step.parL _ _ _ _ _ (Step.onceSkip 0 s2 d2)))
    (Steps.cons _ _ _ (Step.parR _ _ _ _ _ (Step.parR _ _ _ _ _ (Step.seqDone 0 0 _)))
    (Steps.cons _ _ _ (Step.parR _ _ _ _ _ (Step.join 0 (0 + 0) _))
    (Steps.cons _ _ _ (Step.parL _ _ _ _ _ (Step.onceSkip 0 s2 d2))
    (Steps.cons _ _ _ (Step.join 0 (0 + (0 + 0)) _) (Steps.refl _)))))))))
  refine ⟨s2, h, ?_, ?_, ?_, ?_⟩ <;>
    simp [s2, s1, St.fire, exS0, exInit, applyInit, Store.bump]

/-- the two interleavings (and every other complete execution) end in the same state, which is the
    closed formula: the routine is counted once — counter 0 = 5 + 1, counter 1 = 2 — although three
    threads called `once 0` -/
example : ∀ v s', Steps exInit (exProg, exS0) (.ret v, s') →
    v = 0 ∧ s'.cnt 0 = 6 ∧ s'.cnt 1 = 2 ∧ s'.cnt 2 = 0 ∧ s'.done 0 = true ∧ s'.done 1 = false ∧
    s'.runs 0 = 1 ∧ s'.runs 1 = 0 := by
  intro v s' h
  obtain ⟨_, h2, h3, _, h5, h6⟩ := (C16_eval_determinate_once exInit exProg _ _ _ _).1 v s' h
  refine ⟨h2, ?_, ?_, ?_, ?_, ?_, ?_, ?_⟩
  · rw [h3]; decide
  · rw [h3]; decide
  · rw [h3]; decide
  · rw [h5]; decide
  · rw [h5]; decide
  · rw [h6]; decide
  · rw [h6]; decide

example : ocontrib exInit exProg (fun _ => false) 0 = 5 ∧ dedup (onces exProg) = [0] ∧
    onces exProg = [0, 0, 0] := by decide

/-- if the control was already done initially nobody runs the routine -/
example : ∀ v s', Steps exInit (exProg, ⟨fun _ => 0, fun _ => 0, fun _ => true, fun _ => 0⟩) (.ret v, s') →
    s'.cnt 0 = 1 ∧ s'.cnt 1 = 0 ∧ s'.runs 0 = 0 := by
  intro v s' h
  obtain ⟨_, _, h3, _, _, h6⟩ := (C16_eval_determinate_once exInit exProg _ _ _ _).1 v s' h
  refine ⟨?_, ?_, ?_⟩
  · rw [h3]; decide
  · rw [h3]; decide
  · rw [h6]; decide

end MythVerif.PthOnce
