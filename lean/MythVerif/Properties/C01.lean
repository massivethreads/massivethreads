import MythVerif.Proofs.Life
import MythVerif.Proofs.Attr
import MythVerif.Basic.Tso
/-!
# C01 — every created thread runs exactly once and join delivers its result

Life-cycle part: model `MythVerif.Life` (one thread record; the finishing thread and any number
of joiners, all interleavings, return and `myth_exit` both being `tFinish v`).  Attribute part:
model `MythVerif.Attr` (what `myth_thread_attr_init` sets and what `myth_create_ex` reads).
Memory part: `MythVerif.Tso` (x86-TSO store buffers), `C01_visibility_tso`: the joiner sees the thread's writes.
Exactly-once *dispatch* of a runnable thread by the work-stealing queues is C02; the contents of
stacks and registers across switches is C03.
-/
namespace MythVerif.Life
open MythVerif

/-- the start function is entered at most once, and exactly once before the thread finishes -/
theorem C01_start_once (arg : Val) (d : Bool) (s : St) (h : Reach arg d s) :
    s.started ≤ 1 ∧ (s.tpc ≠ .created → s.started = 1) := by
  have hi := reach_inv arg d s h
  refine ⟨hi.st1, fun hne => ?_⟩
  have := hi.st0
  have h1 := hi.st1
  have : s.started ≠ 0 := fun e => hne (this.mpr e)
  omega

/-- **join returns only after the function has returned / called exit, with exactly that value**:
    a join (or successful try/timed-join) reads its value only when the target has published
    `FREE_READY2`, and the value is the one the target returned or passed to `myth_exit` -/
theorem C01_join_after_finish (arg : Val) (d : Bool) (s s' : St) (h : Reach arg d s) (j : Tid) (v : Val)
    (hs : step s (.jReap j v) = some s') : s.fin = true ∧ s.tpc = .fDone ∧ s.retv = some v := by
  have hi := reach_inv arg d s h
  simp only [step] at hs
  split at hs
  · rename_i hc
    have hd := (hi.finD hc.2.1).1
    have hr : s.retv ≠ none := fun e => by
      have := hi.rv0.mpr e; simp [hd] at this
    refine ⟨hc.2.1, hd, ?_⟩
    rcases hi.rv1 with e | e
    · exact absurd e hr
    · rw [e, hc.2.2]
  · simp at hs

/-- the value a joiner returns is the target's return / exit value -/
theorem C01_join_value (arg : Val) (d : Bool) (s : St) (h : Reach arg d s) (j : Tid) (v : Val)
    (hj : s.pc j = .done v) : s.retv = some v :=
  (reach_inv arg d s h).jfv j v (Or.inr hj)

/-- **the result is stable**: only the finishing step writes `result`, it happens at most once,
    and from then on `result` is the returned value until the record is released -/
theorem C01_result_stable (arg : Val) (d : Bool) (s s' : St) (h : Reach arg d s) (l : Lbl)
    (hs : step s l = some s') (hr : s.retv ≠ none) : s'.result = s.result ∧ s'.retv = s.retv := by
  have hi := reach_inv arg d s h
  cases l <;> simp only [step] at hs
  case tFinish v =>
    split at hs
    · rename_i hc; have := hi.rv0.mp (Or.inr hc); exact absurd this hr
    · simp at hs
  all_goals (
    repeat' (split at hs)
    all_goals (first | (simp at hs; done) | skip)
    all_goals (try (simp at hs; subst hs))
    all_goals (first | exact ⟨rfl, rfl⟩ | simp_all))

/-- **single waiter hand-off**: a registered joiner registered itself only after its context
    was saved; while it is asleep the target has not published yet and will still resume it
    (the target is before its lock, or has read exactly this waiter) -/
theorem C01_single_waiter_handoff (arg : Val) (d : Bool) (s : St) (h : Reach arg d s) (j : Tid)
    (hj : s.pc j = .asleep) :
    s.jSaved j = true ∧ s.fin = false ∧ s.tpc ≠ .fDone ∧ s.tpc ≠ .fFreeing ∧
    ((tBeforeLock s.tpc = true ∧ s.jt = some j) ∨ s.tpc = .fRead (some j) ∨ s.tpc = .fSwitched (some j)) := by
  have hi := reach_inv arg d s h
  have hs := hi.slp j hj
  have hnd : s.tpc ≠ .fDone ∧ s.tpc ≠ .fFreeing := by
    rcases hs with ⟨hb, _⟩ | e | e
    · constructor <;> (intro e; simp [e, tBeforeLock] at hb)
    · simp [e]
    · simp [e]
  refine ⟨hi.swS j (Or.inr hj), ?_, hnd.1, hnd.2, hs⟩
  cases hf : s.fin with
  | false => rfl
  | true => exact absurd (hi.finD hf).1 hnd.1

/-- the waiter is resumed exactly by the target's publish step: no other step changes the
    program counter of a sleeping joiner -/
theorem C01_waiter_resumed_by_publish (s s' : St) (l : Lbl) (j : Tid) (hj : s.pc j = .asleep)
    (hs : step s l = some s') : s'.pc j = .asleep ∨ (l = .tPublish false ∧ s'.pc j = .jSpin ∧ s'.fin = true) := by
  cases l <;> simp only [step] at hs
  case tPublish dd =>
    split at hs
    · rename_i w _
      split at hs
      · split at hs
        · simp at hs; subst hs; left; exact hj
        · rename_i hd hdd
          simp at hs; subst hs
          cases w with
          | none => left; exact hj
          | some k =>
            by_cases e : j = k
            · subst e; right; simp at hdd; subst hdd; simp
            · left; simp [e, hj]
      · simp at hs
    · simp at hs
  all_goals (
    left
    repeat' (split at hs)
    all_goals (first | (simp at hs; done) | skip)
    all_goals (try (simp at hs; subst hs))
    all_goals (first | grind [upd_apply] | simp_all))

example : ∃ s, runs step (init 3 false) [.tStart, .jLocked 9 false, .jSwitch 9, .jSet 9] = some s ∧
    s.pc 9 = .asleep ∧ s.jt = some 9 := by
  refine ⟨_, rfl, ?_⟩; decide

end MythVerif.Life

namespace MythVerif.Attr

/-- **attribute objects prepared with the public functions**: whatever garbage the memory held
    before `myth_thread_attr_init`, after it and any sequence of the public setters every field
    that `myth_create_ex` reads is defined, and equals the default except where a setter was used -/
theorem C01_attr_defaults (garbage : Raw) (sets : List Setter) (dflt : Defaults) :
    let a := applySetters (attrInit dflt garbage) sets
    (∀ f ∈ createReads, a.get f ≠ none) ∧
    (∀ f ∈ createReads, (∀ st ∈ sets, st.field ≠ f) → a.get f = some (defaultOf dflt f)) :=
  ⟨fun f _ => applySetters_get_some sets _ f (by simp [attrInit_get]),
   fun f _ hno => by rw [applySetters_get_none sets _ f hno, attrInit_get]⟩

/-- the documented NULL `id` pointer: creation succeeds and stores nothing through it -/
theorem C01_null_id (idp : Option Nat) : (createStoresId idp).isSome = idp.isSome := rfl

/-- **the pinned snapshot violated this**: its `attr_init` left the two custom-data fields
    unset although creation reads them -/
theorem C01_pinned_attr_init_leaves_fields_unset :
    ∃ f ∈ createReads, (attrInitPinned ⟨1, 2, 1⟩ (fun _ => none)).get f = none := by
  exact ⟨.customDataSize, by decide, rfl⟩

end MythVerif.Attr

namespace MythVerif.Tso

/-- **every write of the thread is visible to the joiner, under x86-TSO store buffering.**
    The finishing thread's worker `cw` issues, in program order, the thread's own memory writes
    `writes`, then the store of the return / exit value into `result`, then the store of
    `FREE_READY2` into `status` (`myth_entry_point_1/_2`), then anything else (the unlock, the
    scheduler) that touches none of these locations.  While the thread is live only its worker
    writes these locations.  Store buffers are unbounded FIFOs flushed at arbitrary moments, any
    number of other workers run arbitrary code.  Then ANY other worker whose load of `status`
    returns `FREE_READY2` — the join path's finished test — reads, in that state, the return value
    from `result` and, from every location the thread wrote, the last value the thread wrote there.
    (A joiner resumed directly by the finisher runs on the finisher's own worker, i.e. in program
    order; a thread that migrated while running was handed over through the run queue, whose
    hand-over is itself this message-passing pattern on `top` / `base`: C02.) -/
theorem C01_visibility_tso (m0 : Loc → Val) (cw jw : Tid) (status result : Loc) (fr2 retv : Val)
    (ls : List Lbl) (s : St) (writes post : List (Loc × Val))
    (hr : runs step (init m0) ls = some s) (hne : jw ≠ cw) (hrs : result ≠ status)
    (hok : ∀ l, (l = status ∨ l = result ∨ ∃ e ∈ writes, e.1 = l) →
             ∀ lb ∈ ls, lb.writes l = true → lb.isStoreBy cw = true)
    (hlog : s.done cw ++ s.buf cw = (writes ++ [(result, retv)]) ++ (status, fr2) :: post)
    (hw : ∀ e ∈ writes, e.1 ≠ status ∧ e.1 ≠ result)
    (hpost : ∀ e ∈ post, e.1 ≠ status ∧ e.1 ≠ result ∧ ∀ e' ∈ writes, e.1 ≠ e'.1)
    (h0 : m0 status ≠ fr2) (hsee : view s jw status = fr2) :
    view s jw result = retv ∧ ∀ e ∈ writes, view s jw e.1 = applyStores m0 writes e.1 := by
  have hdata : ∀ e ∈ writes ++ [(result, retv)], e.1 ≠ status := by
    intro e he
    simp only [List.mem_append, List.mem_singleton] at he
    rcases he with he | he
    · exact (hw e he).1
    · subst he; exact hrs
  refine ⟨?_, ?_⟩
  · have := (message_passing m0 cw jw status result fr2 ls s (writes ++ [(result, retv)]) post hr hne hrs
      (hok status (Or.inl rfl)) (hok result (Or.inr (Or.inl rfl))) hlog hdata
      (fun e he => ⟨(hpost e he).1, (hpost e he).2.1⟩) h0 hsee).1
    rw [this, applyStores_append]
    simp [applyStores, upd]
  · intro e he
    have hes : e.1 ≠ status := (hw e he).1
    have := (message_passing m0 cw jw status e.1 fr2 ls s (writes ++ [(result, retv)]) post hr hne hes
      (hok status (Or.inl rfl)) (hok e.1 (Or.inr (Or.inr ⟨e, he, rfl⟩))) hlog hdata
      (fun e' he' => ⟨(hpost e' he').1, (hpost e' he').2.2 e he⟩) h0 hsee).1
    rw [this, applyStores_append]
    simp only [applyStores]
    simp [upd, (hw e he).2]

/-- non-vacuity: worker 1 runs the thread (writes cells 20 and 21, cell 20 twice), stores the result 77
    into location 2 and FREE_READY2 (= 3) into location 1, then unlocks (location 0); the joiner's
    worker 2 first sees the old status, later the new one, and then reads 77 and the final cell values;
    worker 1's unlock store is still buffered -/
example :
    (runs step (init (fun _ => 0))
      [.store 1 20 5, .store 1 21 6, .store 1 20 9, .store 1 2 77, .store 1 1 3, .store 1 0 0,
       .flush 1, .flush 1, .load 2 1 0, .flush 1, .flush 1, .flush 1,
       .load 2 1 3, .load 2 2 77, .load 2 20 9, .load 2 21 6]).map (fun s => (s.buf 1, s.done 1 ++ s.buf 1)) =
      some ([(0, 0)], ([(20, 5), (21, 6), (20, 9)] ++ [(2, 77)]) ++ (1, 3) :: [(0, 0)]) := by
  decide

end MythVerif.Tso
