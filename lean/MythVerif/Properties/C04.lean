import MythVerif.Proofs.Mutex
/-!
# C04 — mutex: mutual exclusion, no lost wake-up, non-blocking trylock

Model `MythVerif.Mutex`: `lock / trylock / timedlock / unlock` of `myth_sync_func.h` with the
blocking discipline, one label per shared access, **any number of threads** (`Tid := Nat`),
any interleaving (`Reachable` = any finite label sequence from `init`; workers do not appear
because a label is enabled whichever worker executes it).
-/
namespace MythVerif.Mutex
open MythVerif

theorem inv_step (s s' : St) (l : Lbl) (h : Inv s) (hs : step s l = some s') : Inv s' := by
  cases l with
  | lockCas1 t ok =>
    simp only [step] at hs; (repeat' split at hs) <;> cases hs
    · exact h.acquire t _ (.inl ‹_›) (by grind) (by grind)
    · exact h.pc_move t _ (by grind [silent, listOk, ownsBit, active])
  | tryCas t ok =>
    simp only [step] at hs; (repeat' split at hs) <;> cases hs
    · exact h.acquire t _ (.inr ‹_›) (h.trEven t _ ‹_›) (by grind)
    · exact h.pc_move t _ (by grind [silent, listOk, ownsBit, active])
  | lockCas2 t ok =>
    simp only [step] at hs; (repeat' split at hs) <;> cases hs
    · exact h.lockCas2 t _ ‹_› (by grind) (by grind)
    · exact h.pc_move t _ (by grind [silent, listOk, ownsBit, active])
  | unlockCas2 t ok =>
    simp only [step] at hs; (repeat' split at hs) <;> cases hs
    · exact h.unlockCas2 t _ ‹_› (by grind) (by grind)
    · exact h.pc_move t _ (by grind [silent, listOk, ownsBit, active])
  | unlockCas0 t ok =>
    simp only [step] at hs; (repeat' split at hs) <;> cases hs
    · exact h.unlockCas0 t (by grind) (by grind)
    · exact h.pc_move t _ (by grind [silent, listOk, ownsBit, active])
  | cbEnq t => simp only [step] at hs; (repeat' split at hs) <;> cases hs; exact h.cbEnq t ‹_›
  | wakeDeq t x => simp only [step] at hs; (repeat' split at hs) <;> cases hs; exact h.wakeDeq t _ _ ‹_› (by grind)
  | clearBit t => simp only [step] at hs; (repeat' split at hs) <;> cases hs; exact h.clearBit t _ ‹_› ‹_›
  | wakePush x => simp only [step] at hs; (repeat' split at hs) <;> cases hs; exact h.wakePush x ‹_›
  | wakeSpin t => simp only [step] at hs; (repeat' split at hs) <;> cases hs; exact h
  | lockRead t v | blockBegin t | tryRead t v | unlockRead t v =>
    simp only [step] at hs; (repeat' split at hs) <;> cases hs
    all_goals exact h.pc_move t _ (by grind [silent, listOk, ownsBit, active])

/-- the invariant holds in every reachable state (any threads, any schedule, any length) -/
theorem reachable_inv (s : St) (h : Reachable step init s) : Inv s :=
  inv_reachable step init Inv inv_init (fun s l s' => inv_step s s' l) s h

/-- **mutual exclusion**: at most one thread owns the lock bit (is between a successful
    lock/trylock/timedlock and the end of its unlock) -/
theorem C04_mutual_exclusion (s : St) (h : Reachable step init s) (t1 t2 : Tid)
    (h1 : ownsBit (s.pc t1) = true) (h2 : ownsBit (s.pc t2) = true) : t1 = t2 := by
  have hi := reachable_inv s h
  have a := (hi.own t1).mp h1
  have b := (hi.own t2).mp h2
  rw [a] at b; exact Option.some.inj b

/-- the lock bit of the word is set exactly while some thread owns it -/
theorem C04_bit_iff_owner (s : St) (h : Reachable step init s) :
    s.word % 2 = 1 ↔ ∃ t, ownsBit (s.pc t) = true := by
  have hi := reachable_inv s h
  rw [hi.bit, hi.owner_iff]

/-- an acquisition (by lock, trylock or timedlock) succeeds only in a state where nobody owns the bit -/
theorem C04_acquire_only_when_free (s s' : St) (h : Reachable step init s) (t : Tid)
    (hs : step s (.lockCas1 t true) = some s' ∨ step s (.tryCas t true) = some s') :
    ∀ u, ownsBit (s.pc u) = false := by
  intro u
  have hi := reachable_inv s h
  have hev : s.word % 2 = 0 := by
    have := hi.trEven t
    rcases hs with hs | hs <;> simp only [step] at hs <;> (repeat' split at hs) <;> cases hs <;> grind
  cases hb : ownsBit (s.pc u) with
  | false => rfl
  | true =>
    have := (C04_bit_iff_owner s h).mpr ⟨u, hb⟩
    omega

/-- **waiter accounting**: the count in the word equals announced-but-not-enqueued plus asleep
    threads, minus the one an unlocker has already subtracted and is about to dequeue -/
theorem C04_waiter_accounting (s : St) (h : Reachable step init s) :
    s.word / 2 + (if s.uwf = true then 1 else 0) = s.anns.length + s.q.length ∧
    (∀ t, t ∈ s.anns ↔ (s.pc t = .ann ∨ s.pc t = .annSw)) ∧
    (∀ t, s.pc t = .asleep ↔ (t ∈ s.q ∨ t ∈ s.woken ∨ t ∈ s.ready)) ∧ s.q.Nodup ∧ s.woken.Nodup ∧
    s.ready.Nodup ∧ (∀ t, t ∈ s.q → (t ∉ s.woken ∧ t ∉ s.ready)) ∧ (∀ t, t ∈ s.woken → t ∉ s.ready) := by
  have hi := reachable_inv s h
  refine ⟨hi.acct, hi.annM, ?_, hi.qN, hi.wkN, hi.rdN, hi.qw, hi.wr⟩
  intro t
  constructor
  · exact hi.asl t
  · rintro (h | h | h)
    · exact hi.qA t h
    · exact hi.wkA t h
    · exact hi.rdA t h

/-- **no lost wake-up (invariant form)**: whenever threads are blocked or about to block on the
    mutex, either somebody owns the bit (and its unlock will see the waiters), or a dequeued
    thread is about to be pushed to a run queue, or a thread is active in its lock loop -/
theorem C04_waiters_have_hope (s : St) (h : Reachable step init s)
    (hw : (∃ t, s.pc t = .asleep ∧ t ∈ s.q) ∨ (∃ t, s.pc t = .ann ∨ s.pc t = .annSw)) :
    (∃ t, ownsBit (s.pc t) = true) ∨ s.ready ≠ [] ∨ (∃ t, active (s.pc t) = true) := by
  have hi := reachable_inv s h
  have : s.q ≠ [] ∨ s.anns ≠ [] := by
    rcases hw with ⟨t, _, ht⟩ | ⟨t, ht⟩
    · exact Or.inl (List.ne_nil_of_mem ht)
    · exact Or.inr (List.ne_nil_of_mem ((hi.annM t).mpr ht))
  exact (hi.hope this).imp_left hi.owner_iff.mp

/-- **no lost wake-up (stuck-freedom)**: in a reachable state where no operation is in flight,
    no push of a dequeued thread is pending and nobody holds the mutex (every thread is idle or
    asleep), nobody is asleep. -/
theorem C04_no_lost_wakeup (s : St) (h : Reachable step init s)
    (hq : ∀ t, s.pc t = .idle ∨ s.pc t = .asleep) (hr : s.ready = []) : ∀ t, s.pc t = .idle := by
  have hi := reachable_inv s h
  have hno : ∀ t, ownsBit (s.pc t) = false ∧ active (s.pc t) = false := by
    intro t; rcases hq t with e | e <;> simp [e, ownsBit, active]
  have hq0 : s.q = [] := by
    cases hql : s.q with
    | nil => rfl
    | cons x r =>
      have hx : x ∈ s.q := by simp [hql]
      rcases C04_waiters_have_hope s h (Or.inl ⟨x, hi.qA x hx, hx⟩) with ⟨t, ht⟩ | hrd | ⟨t, ht⟩
      · simp [(hno t).1] at ht
      · exact absurd hr hrd
      · simp [(hno t).2] at ht
  have hw0 : s.woken = [] := by
    cases hwl : s.woken with
    | nil => rfl
    | cons x r =>
      obtain ⟨u, hu⟩ := hi.wkC x (by simp [hwl])
      rcases hq u with e | e <;> simp [e] at hu
  intro t
  rcases hq t with e | e
  · exact e
  · rcases hi.asl t e with h1 | h1 | h1
    · simp [hq0] at h1
    · simp [hw0] at h1
    · simp [hr] at h1

/-- **trylock never blocks**: a trylock/timedlock access never announces, enqueues or puts the caller to sleep -/
theorem C04_trylock_nonblocking (s s' : St) (t : Tid) (v : Nat) (ok : Bool)
    (hs : step s (.tryRead t v) = some s' ∨ step s (.tryCas t ok) = some s') :
    s'.q = s.q ∧ s'.anns = s.anns ∧
    (s'.pc t = .idle ∨ s'.pc t = .tr v ∨ s'.pc t = .tretry ∨ s'.pc t = .hold) := by
  rcases hs with hs | hs <;> simp only [step] at hs <;> (repeat' split at hs) <;> cases hs <;> simp

/-- **trylock fails only if the mutex is held**: EBUSY is returned only on reading a word whose
    lock bit is set, and then some thread owns the bit at that instant -/
theorem C04_trylock_fails_only_if_held (s s' : St) (h : Reachable step init s) (t : Tid) (v : Nat)
    (hs : step s (.tryRead t v) = some s') (hb : v % 2 = 1) : ∃ u, ownsBit (s.pc u) = true := by
  simp only [step] at hs
  split at hs
  · rename_i hc
    apply (C04_bit_iff_owner s h).mp
    rw [← hc.1]; exact hb
  · simp at hs

/-- **sleepers do not occupy a worker**: a thread asleep on the mutex performs no access at all;
    the only label that concerns it is its being pushed back to a run queue by a worker -/
theorem C04_sleepers_off_worker (s : St) (t : Tid) (l : Lbl) (ha : s.pc t = .asleep)
    (hl : l.actor = t) (hp : ∀ x, l ≠ .wakePush x) : step s l = none := by
  cases l <;> simp only [Lbl.actor] at hl <;> subst hl <;> first | (exact absurd rfl (hp _)) | (simp [step, ha])

/-- a woken thread is handed to the scheduler exactly once: it is pushed only from the set of
    dequeued threads whose unlocker has cleared the lock bit (never before), leaves that set, is
    in no queue afterwards, and re-enters its lock loop -/
theorem C04_wake_exactly_once (s s' : St) (h : Reachable step init s) (x : Tid)
    (hs : step s (.wakePush x) = some s') :
    s.pc x = .asleep ∧ x ∉ s.q ∧ x ∉ s.woken ∧ x ∈ s.ready ∧ x ∉ s'.ready ∧ x ∉ s'.q ∧ s'.pc x = .lretry := by
  have hi := reachable_inv s h
  simp only [step] at hs
  split at hs
  · rename_i hx
    simp at hs; subst hs
    refine ⟨hi.rdA x hx, fun hq => (hi.qw x hq).2 hx, fun hw => hi.wr x hw hx, hx, ?_, fun hq => (hi.qw x hq).2 hx, by simp⟩
    simp only; intro hm; exact ((List.Nodup.mem_erase_iff hi.rdN).mp hm).1 rfl
  · simp at hs

/-- a thread is pushed only after the unlocker that dequeued it cleared the lock bit -/
theorem C04_push_after_clear (s : St) (h : Reachable step init s) (u x : Tid) (hu : s.pc u = .uc x) :
    x ∈ s.woken ∧ x ∉ s.ready ∧ step s (.wakePush x) = none := by
  have hi := reachable_inv s h
  have hw := hi.car u x hu
  have hnr := hi.wr x hw
  exact ⟨hw, hnr, by simp [step, hnr]⟩

/-! ### non-vacuity: a reachable state with an owner, a sleeper and an announced thread -/
def demoTrace : List Lbl :=
  [.lockRead 1 0, .lockCas1 1 true, .lockRead 2 1, .lockCas2 2 true, .blockBegin 2, .cbEnq 2,
   .lockRead 3 3, .lockCas2 3 true, .tryRead 4 5]

example : ∃ s, runs step init demoTrace = some s ∧ s.word = 5 ∧ s.q = [2] ∧ s.pc 1 = .hold ∧ s.pc 3 = .ann := by
  refine ⟨_, rfl, ?_⟩; decide

/-- the full hand-over: unlock with a sleeper wakes it and it acquires the mutex -/
example : ∃ s, runs step init (demoTrace ++ [.blockBegin 3, .cbEnq 3, .unlockRead 1 5, .unlockCas2 1 true,
    .wakeDeq 1 2, .clearBit 1, .wakePush 2, .lockRead 2 2, .lockCas1 2 true]) = some s ∧
    s.word = 3 ∧ s.q = [3] ∧ s.pc 2 = .hold ∧ s.pc 1 = .idle := by
  refine ⟨_, rfl, ?_⟩; decide

end MythVerif.Mutex
