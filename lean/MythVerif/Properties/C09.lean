import MythVerif.Proofs.Felock
/-!
# C09 — full/empty lock: status hand-off between producers and consumers

Model `MythVerif.Felock`, layered on the abstract mutex / condition-variable interface that C04
and C05 establish for the real primitives.  Any number of threads, each acting as producer
(`wait_and_lock(0); put; mark_and_signal(1)`) or consumer (`wait_and_lock(1); take;
mark_and_signal(0)`) any number of times, plain lock/unlock mixed in, all interleavings.
-/
namespace MythVerif.Felock
open MythVerif

theorem inv_step (s s' : St) (l : Lbl) (h : Inv s) (hs : step s l = some s') : Inv s' := by
  cases l with
  | sig t x =>
    simp only [step] at hs
    split at hs
    case h_2 => cases hs
    rename_i v hp
    have hst := h.ms1v t v hp
    have hneut := h.hneut t 0 (by simp [hp])
    have hht := (h.hd t).mp (by simp [hp, holds])
    split at hs
    case h_3 => cases hs
    · -- nobody to wake
      rename_i hcw
      cases hs
      -- a clause not named carries over as it is: the step writes nothing it reads; the `have`s hand `grind` the
      -- old clauses that the named ones follow from
      exact { h with
        hd := by have := h.hd; simp only [upd_apply]; grind [holds]
        cwA := by have := h.cwA; simp only [upd_apply]; grind
        cwS := by have := h.cwS; simp only [upd_apply]; grind
        w2 := by have := h.w2; simp only [upd_apply]; grind
        hneut := fun _ _ _ => hneut
        hgot := by have := h.hgot; simp only [upd_apply]; grind
        hput := by have := h.hput; simp only [upd_apply]; grind
        htook := by have := h.htook; simp only [upd_apply]; grind
        ms1v := by have := h.ms1v; simp only [upd_apply]; grind
        twv := by have := h.twv; simp only [upd_apply]; grind
        hope := by grind }
    · rename_i y rest x' hcw
      split at hs <;> cases hs
      have hy : s.pc y = .slp v := h.cwA v y (by simp [hcw])
      have hyt : y ≠ t := by grind
      have hN := h.cwN v
      rw [hcw] at hN
      exact { h with
        hd := by have := h.hd; simp only [upd_apply]; grind [holds]
        cwA := by have := h.cwA; simp only [upd_apply]; grind
        cwS := by have := h.cwS; simp only [upd_apply]; grind
        cwN := by have := h.cwN; simp only [upd_apply]; grind
        w2 := by have := h.w2; simp only [upd_apply]; grind
        hneut := fun _ _ _ => hneut
        hgot := by have := h.hgot; simp only [upd_apply]; grind
        hput := by have := h.hput; simp only [upd_apply]; grind
        htook := by have := h.htook; simp only [upd_apply]; grind
        ms1v := by have := h.ms1v; simp only [upd_apply]; grind
        twv := by have := h.twv; simp only [upd_apply]; grind
        -- the thread just woken is on its way to re-check the status
        hope := fun w _ hw => ⟨y, .inl (by grind [upd_apply])⟩ }
  | walStart t w | lockStart t | acquire t | check t v | waitRel t | put t x | take t x | markSet t v
  | release t =>
    simp only [step] at hs; (repeat' split at hs) <;> cases hs
    all_goals
      constructor
      case cwA => have := h.cwA; simp only [upd_apply]; grind
      case cwS => have := h.cwS; simp only [upd_apply]; grind
      case cwN => have := h.cwN; have := h.cwA; grind [upd_apply]
      case w2 => have := h.w2; simp only [upd_apply]; grind
      case st2 => grind [h.st2]
      case items => have := h.hgot t; grind [h.items]
      case hope => have := h.hope; have := h.twv t; simp only [upd_apply]; grind [act]
      case cntP => grind [h.cntP]
      case cntT => grind [h.cntT]
      -- who holds the mutex, and what the holder's pc says about status and slot
      all_goals
        have hd := h.hd; have free := h.free; have hneut := h.hneut; have hgot := h.hgot
        have hput := h.hput; have htook := h.htook; have ms1v := h.ms1v; have twv := h.twv
        have := hneut t
        simp only [upd_apply]
        grind [holds]

theorem reachable_inv (s : St) (h : Reachable step init s) : Inv s :=
  inv_reachable step init Inv inv_init (fun s l s' => inv_step s s' l) s h

/-- **wait_and_lock(s) returns only when the status equals s and with the lock held exclusively** -/
theorem C09_wait_and_lock_post (s : St) (h : Reachable step init s) (t : Tid) (w : Nat)
    (ht : s.pc t = .got w) :
    s.status = w ∧ s.holder = some t ∧ ∀ u, holds (s.pc u) = true → u = t := by
  have hi := reachable_inv s h
  have hh : s.holder = some t := (hi.hd t).mp (by simp [ht, holds])
  refine ⟨(hi.hgot t w ht).1, hh, fun u hu => ?_⟩
  have := (hi.hd u).mp hu
  rw [hh] at this; exact (Option.some.inj this).symm

/-- **mark_and_signal(v) publishes v**: while the marker still holds the lock after writing,
    the status is `v`; if threads were waiting for `v`, its signal hands one of them back to the
    lock (`wl v`) -/
theorem C09_mark_publishes (s s' : St) (h : Reachable step init s) (t : Tid) (x : Option Tid)
    (hs : step s (.sig t x) = some s') :
    ∃ v, s.pc t = .ms1 v ∧ s.status = v ∧ s'.status = v ∧
      ((s.cw v = [] ∧ x = none) ∨ (∃ y rest, s.cw v = y :: rest ∧ x = some y ∧ s'.pc y = .wl v ∧ s'.cw v = rest)) := by
  have hi := reachable_inv s h
  simp only [step] at hs
  split at hs
  · rename_i v hp
    refine ⟨v, hp, hi.ms1v t v hp, ?_, ?_⟩
    · split at hs
      · simp at hs; subst hs; exact hi.ms1v t v hp
      · split at hs
        · simp at hs; subst hs; exact hi.ms1v t v hp
        · simp at hs
      · simp at hs
    · split at hs
      · left; exact ⟨by assumption, rfl⟩
      · rename_i y rest x' hcw
        split at hs
        · rename_i hxy
          simp at hs; subst hs; subst hxy
          have hy : s.pc x' = .slp v := hi.cwA v x' (by simp [hcw])
          have hyt : x' ≠ t := by intro e; subst e; simp [hp] at hy
          exact Or.inr ⟨x', rest, hcw, rfl, by simp [hyt], by simp⟩
        · simp at hs
      · simp at hs
  · simp at hs

/-- **no item is lost, none is consumed twice**: in every reachable state the produced items are
    exactly the one in the slot (if any) followed by the consumed ones, and the counters of
    completed puts and takes are the lengths of the two lists -/
theorem C09_exchange_exactly_once (s : St) (h : Reachable step init s) :
    s.produced = (match s.slot with | some x => [x] | none => []) ++ s.consumed ∧
    s.donePut = s.produced.length ∧ s.doneTake = s.consumed.length := by
  have hi := reachable_inv s h
  exact ⟨hi.items, hi.cntP, hi.cntT⟩

/-- consequence: if the producers' items are pairwise distinct, so are the consumed ones -/
theorem C09_consumed_nodup (s : St) (h : Reachable step init s) (hp : s.produced.Nodup) :
    s.consumed.Nodup := by
  have := (C09_exchange_exactly_once s h).1
  rw [this] at hp
  exact (List.nodup_append.mp hp).2.1

/-- **no lost signal**: whenever the status is `w` and threads sleep waiting for `w`, some thread
    is on its way to use or change the status (woken and re-acquiring, or holding the lock inside
    a status operation) -/
theorem C09_no_lost_signal (s : St) (h : Reachable step init s) (w : Nat) (t : Tid)
    (ht : s.pc t = .slp w) (hw : s.status = w) : ∃ u, s.pc u = .wl w ∨ act w (s.pc u) = true := by
  have hi := reachable_inv s h
  exact hi.hope w (List.ne_nil_of_mem (hi.cwS w t ht)) hw

/-- nobody inside an operation: every thread is idle or asleep -/
def quiescent (s : St) : Prop := ∀ t, s.pc t = .idle ∨ ∃ w, s.pc t = .slp w

/-- **no sleeper is left behind (stuck-freedom)**: in a quiescent reachable state every sleeper
    waits for a status that is not the current one, and nobody holds the lock -/
theorem C09_no_stuck (s : St) (h : Reachable step init s) (hq : quiescent s) :
    (∀ t w, s.pc t = .slp w → s.status ≠ w) ∧ s.holder = none := by
  have hi := reachable_inv s h
  have hnone : s.holder = none := by
    cases hh : s.holder with
    | none => rfl
    | some u =>
      have := (hi.hd u).mpr hh
      rcases hq u with e | ⟨w, e⟩ <;> simp [e, holds] at this
  refine ⟨?_, hnone⟩
  intro t w ht hw
  obtain ⟨u, hu⟩ := C09_no_lost_signal s h w t ht hw
  rcases hq u with e | ⟨w', e⟩ <;> simp [e, act] at hu

/-! ### non-vacuity: two producers, one consumer -/
def demo : List Lbl :=
  [.walStart 1 0, .acquire 1, .check 1 0, .put 1 41, .walStart 2 0, .markSet 1 1, .sig 1 none, .release 1,
   .acquire 2, .check 2 1, .waitRel 2,                         -- producer 2 finds it full and sleeps
   .walStart 3 1, .acquire 3, .check 3 1, .take 3 41, .markSet 3 0, .sig 3 (some 2), .release 3,
   .acquire 2, .check 2 0, .put 2 42, .markSet 2 1, .sig 2 none, .release 2]

example : ∃ s, runs step init demo = some s ∧ s.produced = [42, 41] ∧ s.consumed = [41] ∧
    s.slot = some 42 ∧ s.status = 1 ∧ s.holder = none := by
  refine ⟨_, rfl, ?_⟩; decide

end MythVerif.Felock
