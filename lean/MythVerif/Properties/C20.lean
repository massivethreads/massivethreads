import MythVerif.Proofs.Time
/-!
# C20 — sleeping and timed waits respect their deadlines

Model: `MythVerif.Time` (`Model/Time.lean`), a transcription of `myth_timespec_add`,
`myth_timespec_gt`, `myth_nanosleep_body`, `myth_usleep_body`, `myth_sleep_body`,
`myth_timedjoin_body` (`src/myth_sched_func.h`) and `myth_mutex_timedlock_body`
(`src/myth_sync_func.h`).  The clock (`hr_gettime`) is an ARBITRARY stream `clk : Nat → Ts`, the
outcomes of the trylock / tryjoin attempts are an ARBITRARY stream `out : Nat → Bool`; `fuel`
bounds the number of loop iterations looked at (`none` = still looping), and every theorem holds
for every `fuel`.

Quantification: every duration / deadline (any `Int` fields unless a hypothesis says otherwise),
every clock stream, every outcome stream.  Hypotheses that appear:
`Norm t` (`0 ≤ tv_nsec < 10^9`, what `clock_gettime` returns) and `InT x` (the value fits the 64-bit
`time_t`).
-/
namespace MythVerif.Time

/-! ### timespec addition and comparison -/

/-- **addition is normalised and exact, with the carry**, whenever the sum of the seconds (plus
    carry) is representable: nanosecond field in `[0, 10^9)`, the instants add exactly, and the carry
    into the seconds is 1 exactly when the nanoseconds reach 10^9. -/
theorem C20_add_normalised (a b : Ts) (ha : Norm a) (hb : Norm b)
    (hlo : tMin ≤ a.sec + b.sec) (hhi : a.sec + b.sec + carry a b ≤ tMax) :
    Norm (add a b) ∧ toNs (add a b) = toNs a + toNs b ∧
    (add a b).sec = a.sec + b.sec + (if a.nsec + b.nsec ≥ NS then 1 else 0) := by
  rw [add_exact a b ha hb hlo hhi]
  exact ⟨norm_exact a b ha hb, toNs_exact a b, rfl⟩

/-- when the sum is later than any representable time the current source saturates, and then no
    normalised in-range clock reading is ever later than the result (a sleep until it never ends
    early) -/
theorem C20_add_saturates (a b : Ts) (ha : Norm a) (hb : Norm b)
    (hhi : tMax < a.sec + b.sec + carry a b) :
    add a b = tsSat ∧ ∀ r, Norm r → InT r.sec → gt r (add a b) = false := by
  have h := add_saturates a b ha hb hhi
  refine ⟨h, ?_⟩
  intro r hr hs
  rw [h]; exact not_gt_tsSat hr hs

/-- `myth_timespec_gt` is a strict total order on ALL timespec values (lexicographic on the two
    fields): irreflexive, transitive, asymmetric, trichotomous -/
theorem C20_gt_strict_order :
    (∀ a, gt a a = false) ∧
    (∀ a b c, gt a b = true → gt b c = true → gt a c = true) ∧
    (∀ a b, gt a b = true → gt b a = false) ∧
    (∀ a b, gt a b = true ∨ a = b ∨ gt b a = true) :=
  ⟨gt_irrefl, fun _ _ _ => gt_trans, fun _ _ => gt_asymm, gt_trichotomy⟩

/-- on normalised values it is exactly "denotes a later instant" -/
theorem C20_gt_is_later (a b : Ts) (ha : Norm a) (hb : Norm b) : gt a b = true ↔ toNs a > toNs b :=
  gt_iff_toNs ha hb

/-! ### nanosleep / usleep / sleep -/

/-- **EINVAL exactly for malformed durations**, and the condition the code tests is the POSIX one
    (`tv_sec < 0`, `tv_nsec < 0`, `tv_nsec > 999999999`) = "not (`0 ≤ tv_sec` and normalised)";
    a rejected call reads no clock and does not yield. -/
theorem C20_einval_iff (req : Ts) (clk : Clock) (fuel : Nat) :
    ((∃ tr, nanosleep req clk fuel = some (Rc.einval, tr)) ↔
        (req.sec < 0 ∨ req.nsec < 0 ∨ req.nsec > 999999999)) ∧
    ((req.sec < 0 ∨ req.nsec < 0 ∨ req.nsec > 999999999) ↔ ¬ (0 ≤ req.sec ∧ Norm req)) ∧
    (∀ tr, nanosleep req clk fuel = some (Rc.einval, tr) → tr = []) := by
  rw [← malformed_iff, nanosleep, nanosleepWith_eq]
  refine ⟨?_, ?_, ?_⟩
  · cases malformed req <;> simp
  · rw [← not_malformed_iff]; simp
  · cases malformed req <;> simp

/-- the only return codes of nanosleep are 0 and EINVAL -/
theorem C20_nanosleep_codes (req : Ts) (clk : Clock) (fuel : Nat) (r : Rc) (tr : List Ev)
    (h : nanosleep req clk fuel = some (r, tr)) : r = Rc.ok ∨ r = Rc.einval := by
  rw [nanosleep, nanosleepWith_eq] at h
  split at h
  · simp at h; exact Or.inr h.1.symm
  · simp at h; obtain ⟨_, _, h1, _⟩ := h; exact Or.inl h1.symm

/-- **nanosleep returns 0 no earlier than the requested duration**: for every request and every
    clock stream of normalised readings, a return of 0 happened right after observing a reading
    `clk i` (i ≥ 1, it is in the trace) that is LATER than start + req, where start = `clk 0` is the
    reading taken on entry.  No representability hypothesis: a request so large that start + req
    overflows never returns 0 at all. -/
theorem C20_nanosleep_min (req : Ts) (clk : Clock) (fuel : Nat) (tr : List Ev)
    (hclk : ∀ i, Norm (clk i) ∧ InT (clk i).sec)
    (h : nanosleep req clk fuel = some (Rc.ok, tr)) :
    ∃ i, 1 ≤ i ∧ Ev.clock (clk i) ∈ tr ∧ toNs (clk i) > toNs (clk 0) + toNs req ∧
      (∀ j, 1 ≤ j → j < i → toNs (clk j) ≤ toNs (clk 0) + toNs req) := by
  obtain ⟨⟨hs, hn⟩, n, _, hg, hall, rfl⟩ := (nanosleep_ok req clk fuel tr).mp h
  have h0 := hclk 0
  have hlo : tMin ≤ (clk 0).sec + req.sec := by
    have := h0.2; unfold InT tMin at *; omega
  by_cases hrep : (clk 0).sec + req.sec + carry (clk 0) req ≤ tMax
  · have later := fun i => gt_add_iff (hclk i).1 h0.1 hn hlo hrep
    refine ⟨1 + n, by omega, ?_, (later _).mp hg, ?_⟩
    · simp only [List.mem_cons]; right; exact mem_sleepTrace clk 1 n
    · intro j hj1 hj2
      have := hall (j - 1) (by omega)
      rw [show 1 + (j - 1) = j by omega] at this
      have := mt (later j).mpr (by simp [this])
      omega
  · have hsat := add_saturates (clk 0) req h0.1 hn (by omega)
    rw [hsat, not_gt_tsSat (hclk _).1 (hclk _).2] at hg
    simp at hg

/-- hence, on a monotone clock, at every reading from the return on, at least the requested
    duration has elapsed since the call -/
theorem C20_nanosleep_elapsed (req : Ts) (clk : Clock) (fuel : Nat) (tr : List Ev)
    (hclk : ∀ i, Norm (clk i) ∧ InT (clk i).sec)
    (hmono : ∀ i j, i ≤ j → toNs (clk i) ≤ toNs (clk j))
    (h : nanosleep req clk fuel = some (Rc.ok, tr)) :
    ∃ i, Ev.clock (clk i) ∈ tr ∧ ∀ j, i ≤ j → toNs (clk j) - toNs (clk 0) ≥ toNs req := by
  obtain ⟨i, _, hm, hlt, _⟩ := C20_nanosleep_min req clk fuel tr hclk h
  exact ⟨i, hm, fun j hj => by have := hmono i j hj; omega⟩

/-- and it does return 0 — at the FIRST reading later than start + req — whenever there is one
    (and start + req is representable); the result does not depend on the fuel -/
theorem C20_nanosleep_returns (req : Ts) (clk : Clock) (fuel i : Nat)
    (hclk : ∀ i, Norm (clk i) ∧ InT (clk i).sec) (hs : 0 ≤ req.sec) (hn : Norm req)
    (hrep : (clk 0).sec + req.sec + carry (clk 0) req ≤ tMax)
    (hi : 1 ≤ i) (hlate : toNs (clk i) > toNs (clk 0) + toNs req)
    (hfirst : ∀ j, 1 ≤ j → j < i → toNs (clk j) ≤ toNs (clk 0) + toNs req) (hf : i ≤ fuel) :
    nanosleep req clk fuel = some (Rc.ok, Ev.clock (clk 0) :: sleepTrace clk 1 (i - 1)) := by
  have h0 := hclk 0
  have hlo : tMin ≤ (clk 0).sec + req.sec := by
    have := h0.2; unfold InT tMin at *; omega
  have later := fun i => gt_add_iff (hclk i).1 h0.1 hn hlo hrep
  refine (nanosleep_ok req clk fuel _).mpr ⟨⟨hs, hn⟩, i - 1, by omega, ?_, ?_, rfl⟩
  · rw [show 1 + (i - 1) = i by omega]
    exact (later i).mpr hlate
  · intro j hj
    have := hfirst (1 + j) (by omega) (by omega)
    cases hgt : gt (clk (1 + j)) (add (clk 0) req) with
    | false => rfl
    | true => have := (later _).mp hgt; omega

/-- **the sleep lets others run**: the trace of a nanosleep is the start reading followed by loop
    readings, and between any two loop readings the caller yields (`myth_yield_body`); the number of
    yields is the number of loop readings minus one. -/
theorem C20_sleep_yields (req : Ts) (clk : Clock) (fuel : Nat) (tr : List Ev)
    (h : nanosleep req clk fuel = some (Rc.ok, tr)) :
    ∃ n, tr = Ev.clock (clk 0) :: sleepTrace clk 1 n ∧ Sep tr.tail ∧ tr.count Ev.yield = n := by
  obtain ⟨_, n, _, _, _, rfl⟩ := (nanosleep_ok req clk fuel tr).mp h
  refine ⟨n, rfl, sleepTrace_Sep clk 1 n, ?_⟩
  rw [List.count_cons]
  simp [sleepTrace_yields]

/-- **usleep / sleep conversions**: the request built from `usec` microseconds (any `usec`, in
    particular ≥ 10^6) is well-formed — never EINVAL — and denotes exactly `usec * 1000` ns; the one
    built from `s` seconds denotes `s * 10^9` ns. -/
theorem C20_usleep_conv (usec s : Nat) :
    (0 ≤ (usleepReq usec).sec ∧ Norm (usleepReq usec) ∧ toNs (usleepReq usec) = (usec : Int) * 1000) ∧
    (0 ≤ (sleepReq s).sec ∧ Norm (sleepReq s) ∧ toNs (sleepReq s) = (s : Int) * NS) := by
  unfold usleepReq sleepReq Norm toNs NS
  simp only
  have h1 : usec % 1000000 * 1000 % 4294967296 = usec % 1000000 * 1000 := by omega
  rw [h1]
  refine ⟨⟨by omega, ⟨by omega, by omega⟩, by omega⟩, ⟨by omega, ⟨by omega, by omega⟩, by omega⟩⟩

/-- usleep returns 0 only after a reading later than start + usec·1000 ns, sleep only after one
    later than start + s·10^9 ns (all `usec`, all `s`) -/
theorem C20_usleep_sleep_min (clk : Clock) (fuel : Nat) (tr : List Ev)
    (hclk : ∀ i, Norm (clk i) ∧ InT (clk i).sec) :
    (∀ usec : Nat, usleep usec clk fuel = some (Rc.ok, tr) →
      ∃ i, 1 ≤ i ∧ Ev.clock (clk i) ∈ tr ∧ toNs (clk i) > toNs (clk 0) + (usec : Int) * 1000) ∧
    (∀ s : Nat, sleep s clk fuel = some (Rc.ok, tr) →
      ∃ i, 1 ≤ i ∧ Ev.clock (clk i) ∈ tr ∧ toNs (clk i) > toNs (clk 0) + (s : Int) * NS) := by
  constructor
  · intro usec h
    have hc := (C20_usleep_conv usec 0).1
    obtain ⟨i, h1, h2, h3, _⟩ := C20_nanosleep_min (usleepReq usec) clk fuel tr hclk h
    exact ⟨i, h1, h2, by rw [← hc.2.2]; exact h3⟩
  · intro s h
    have hc := (C20_usleep_conv 0 s).2
    obtain ⟨i, h1, h2, h3, _⟩ := C20_nanosleep_min (sleepReq s) clk fuel tr hclk h
    exact ⟨i, h1, h2, by rw [← hc.2.2]; exact h3⟩

/-! ### timed lock / timed join -/

/-- **a timeout is reported only after the deadline**: a non-zero return is the timeout code, it
    was returned right after observing a reading `clk i` with `myth_timespec_gt(clk i, abstime)` —
    strictly later than a normalised deadline, and not earlier than a deadline whose nanosecond
    field is anything ≤ 10^9 — and every attempt made (numbers 0 … i, at least one) had failed. -/
theorem C20_timed_timeout_after_deadline (code : Rc) (abs : Ts) (clk : Clock) (out : Nat → Bool)
    (fuel : Nat) (r : Rc) (tr : List Ev)
    (h : timed code abs clk out fuel = some (r, tr)) (hr : r ≠ Rc.ok) :
    r = code ∧ ∃ i, Ev.clock (clk i) ∈ tr ∧ gt (clk i) abs = true ∧
      (∀ j, j < i → gt (clk j) abs = false) ∧ (∀ j, j ≤ i → out j = false) ∧
      (Norm (clk i) → Norm abs → toNs (clk i) > toNs abs) ∧
      (Norm (clk i) → abs.nsec ≤ NS → toNs (clk i) ≥ toNs abs) := by
  rcases (timed_some code abs clk out fuel r tr).mp h with ⟨_, h1, _⟩ | ⟨h0, n, _, hall, hcase⟩
  · exact absurd h1 hr
  · rcases hcase with ⟨hg, rfl, rfl⟩ | ⟨_, _, h1, _⟩
    · refine ⟨rfl, n, ?_, hg, fun j hj => (hall j hj).1, ?_, fun h1 h2 => (gt_iff_toNs h1 h2).mp hg,
        fun h1 h2 => gt_not_earlier h1 h2 hg⟩
      · simp only [List.mem_cons]; right
        have := mem_timedTrace_timeout clk 0 n
        simpa using this
      · intro j hj
        cases j with
        | zero => exact h0
        | succ j => exact (hall j (by omega)).2
    · exact absurd h1 hr

/-- **success iff one of the attempts made succeeded**: a finished timed operation returned 0 iff its
    trace contains a successful attempt, iff attempt number `k` succeeded for the first `k` such
    that no reading before it (`clk 0 … clk (k-1)`) was past the deadline.  (`code ≠ 0`.) -/
theorem C20_timed_success_iff_attempt (code : Rc) (hcode : code ≠ Rc.ok) (abs : Ts) (clk : Clock)
    (out : Nat → Bool) (fuel : Nat) (r : Rc) (tr : List Ev)
    (h : timed code abs clk out fuel = some (r, tr)) :
    (r = Rc.ok ↔ Ev.attempt true ∈ tr) ∧
    (r = Rc.ok ↔ ∃ k, out k = true ∧ (∀ j, j < k → out j = false) ∧ (∀ i, i < k → gt (clk i) abs = false)) := by
  rcases (timed_some code abs clk out fuel r tr).mp h with ⟨h0, rfl, rfl⟩ | ⟨h0, n, _, hall, hcase⟩
  · refine ⟨by simp, by simp; exact ⟨0, h0, by intro j hj; omega, by intro j hj; omega⟩⟩
  · rcases hcase with ⟨hg, rfl, rfl⟩ | ⟨hg, ho, rfl, rfl⟩
    · constructor
      · have := timedTrace_timeout_no_success clk 0 n
        simp [hcode, this]
      · simp only [hcode, false_iff]
        rintro ⟨k, hk, hfirst, hlate⟩
        by_cases hkn : k ≤ n
        · cases k with
          | zero => simp [h0] at hk
          | succ k => have := (hall k (by omega)).2; simp [this] at hk
        · have := hlate n (by omega); simp [hg] at this
    · constructor
      · have := timedTrace_success_mem clk 0 n
        simp [this]
      · simp only [true_iff]
        refine ⟨n + 1, ho, ?_, ?_⟩
        · intro j hj
          cases j with
          | zero => exact h0
          | succ j => exact (hall j (by omega)).2
        · intro i hi
          by_cases hin : i < n
          · exact (hall i hin).1
          · rw [show i = n by omega]; exact hg

/-- **it succeeds whenever the mutex is free / the thread has finished at one of its attempts before
    the deadline**: if attempt `k` is the first that succeeds and no earlier reading was past the
    deadline, the operation returns 0 (given fuel for `k` iterations) — for every clock otherwise. -/
theorem C20_timed_succeeds_when_free (code : Rc) (abs : Ts) (clk : Clock) (out : Nat → Bool)
    (fuel k : Nat) (hk : out k = true) (hfirst : ∀ j, j < k → out j = false)
    (hlate : ∀ i, i < k → gt (clk i) abs = false) (hf : k ≤ fuel) :
    ∃ tr, timed code abs clk out fuel = some (Rc.ok, tr) := by
  cases k with
  | zero => exact ⟨_, (timed_some code abs clk out fuel _ _).mpr (Or.inl ⟨hk, rfl, rfl⟩)⟩
  | succ k =>
    refine ⟨_, (timed_some code abs clk out fuel _ _).mpr (Or.inr ⟨hfirst 0 (by omega), k, by omega, ?_,
      Or.inr ⟨hlate k (by omega), hk, rfl, rfl⟩⟩)⟩
    intro j hj
    exact ⟨hlate j (by omega), hfirst (j + 1) (by omega)⟩

/-- and it does time out — with the timeout code — at the first reading past the deadline when all
    attempts up to then fail -/
theorem C20_timed_times_out (code : Rc) (abs : Ts) (clk : Clock) (out : Nat → Bool)
    (fuel i : Nat) (hg : gt (clk i) abs = true) (hfirst : ∀ j, j < i → gt (clk j) abs = false)
    (hout : ∀ j, j ≤ i → out j = false) (hf : i < fuel) :
    ∃ tr, timed code abs clk out fuel = some (code, tr) := by
  refine ⟨_, (timed_some code abs clk out fuel _ _).mpr (Or.inr ⟨hout 0 (by omega), i, hf, ?_,
    Or.inl ⟨hg, rfl, rfl⟩⟩)⟩
  intro j hj
  exact ⟨hfirst j hj, hout (j + 1) (by omega)⟩

/-- **at least one attempt is always made**, before any clock reading — also for a deadline in the
    past; if that first attempt succeeds the clock is not read at all -/
theorem C20_timed_first_attempt_always (code : Rc) (abs : Ts) (clk : Clock) (out : Nat → Bool) (fuel : Nat) :
    (∀ r tr, timed code abs clk out fuel = some (r, tr) → ∃ rest, tr = Ev.attempt (out 0) :: rest) ∧
    (out 0 = true → timed code abs clk out fuel = some (Rc.ok, [Ev.attempt true])) := by
  constructor
  · intro r tr h
    rcases (timed_some code abs clk out fuel r tr).mp h with ⟨h0, _, rfl⟩ | ⟨h0, n, _, _, hcase⟩
    · exact ⟨[], by rw [h0]⟩
    · rcases hcase with ⟨_, _, rfl⟩ | ⟨_, _, _, rfl⟩ <;> exact ⟨_, by rw [h0]⟩
  · intro h0
    exact (timed_some code abs clk out fuel _ _).mpr (Or.inl ⟨h0, rfl, rfl⟩)

/-- between any two clock reads of a timed operation the caller yields
    (`myth_yield_ex_body(myth_yield_option_local_first)`) -/
theorem C20_timed_yields (code : Rc) (abs : Ts) (clk : Clock) (out : Nat → Bool) (fuel : Nat)
    (r : Rc) (tr : List Ev) (h : timed code abs clk out fuel = some (r, tr)) : Sep tr := by
  rcases (timed_some code abs clk out fuel r tr).mp h with ⟨_, _, rfl⟩ | ⟨_, n, _, _, hcase⟩
  · exact Sep_single _
  · rcases hcase with ⟨_, _, rfl⟩ | ⟨_, _, _, rfl⟩
    · exact Sep_cons_other (by intro a; simp) (timedTrace_Sep clk _ lastTimeout_Sep 0 n)
    · exact Sep_cons_other (by intro a; simp) (timedTrace_Sep clk _ lastSuccess_Sep 0 n)

/-- the timeout code of both operations in the current source is ETIMEDOUT -/
theorem C20_timeout_code (abs : Ts) (clk : Clock) (out : Nat → Bool) (fuel : Nat) (r : Rc) (tr : List Ev) :
    (timedlock abs clk out fuel = some (r, tr) → r = Rc.ok ∨ r = Rc.etimedout) ∧
    (timedjoin abs clk out fuel = some (r, tr) → r = Rc.ok ∨ r = Rc.etimedout) := by
  have codes : ∀ code, timed code abs clk out fuel = some (r, tr) → r = Rc.ok ∨ r = code := by
    intro code h
    by_cases hr : r = Rc.ok
    · exact Or.inl hr
    · exact Or.inr (C20_timed_timeout_after_deadline code abs clk out fuel r tr h hr).1
  exact ⟨codes _, codes _⟩

/-- the fuel only bounds how far the model looks: a finished run is the same for every larger fuel -/
theorem C20_fuel_irrelevant (f f' : Nat) (hf : f ≤ f') :
    (∀ req clk x, nanosleep req clk f = some x → nanosleep req clk f' = some x) ∧
    (∀ code abs clk out x, timed code abs clk out f = some x → timed code abs clk out f' = some x) := by
  constructor
  · intro req clk x h
    rw [nanosleep, nanosleepWith_eq] at h ⊢
    cases hm : malformed req <;> simp only [hm, if_true, Bool.false_eq_true, if_false] at h ⊢
    · obtain ⟨tr, h1, rfl⟩ := Option.map_eq_some_iff.mp h
      obtain ⟨n, hn, rest⟩ := (sleepLoop_some _ clk f 1 tr).mp h1
      exact Option.map_eq_some_iff.mpr ⟨tr, (sleepLoop_some _ clk f' 1 tr).mpr ⟨n, by omega, rest⟩, rfl⟩
    · exact h
  · intro code abs clk out x h
    obtain ⟨r, tr⟩ := x
    rcases (timed_some code abs clk out f r tr).mp h with h1 | ⟨h0, n, hn, rest⟩
    · exact (timed_some code abs clk out f' r tr).mpr (Or.inl h1)
    · exact (timed_some code abs clk out f' r tr).mpr (Or.inr ⟨h0, n, by omega, rest⟩)

/-! ### non-vacuity, and refutations of the pinned snapshot -/

def clkStep (base : Ts) (step : Int) : Clock := fun i => { sec := base.sec, nsec := base.nsec + step * i }

/-- carry: 1.999999999 s + 2.000000001 s = 4.0 s -/
example : add ⟨1, 999999999⟩ ⟨2, 1⟩ = ⟨4, 0⟩ := by decide

/-- a sleep of 5 ns on a clock ticking 3 ns per reading: start, one early reading (3), then 6 > 5 -/
example : nanosleep ⟨0, 5⟩ (clkStep ⟨100, 0⟩ 3) 10 =
    some (Rc.ok, [Ev.clock ⟨100, 0⟩, Ev.clock ⟨100, 3⟩, Ev.yield, Ev.clock ⟨100, 6⟩]) := by decide

/-- a reading EQUAL to start + req is not enough (strict comparison) -/
example : nanosleep ⟨0, 3⟩ (clkStep ⟨100, 0⟩ 3) 10 =
    some (Rc.ok, [Ev.clock ⟨100, 0⟩, Ev.clock ⟨100, 3⟩, Ev.yield, Ev.clock ⟨100, 6⟩]) := by decide

/-- boundary durations -/
example : nanosleep ⟨0, 1000000000⟩ (clkStep ⟨100, 0⟩ 3) 10 = some (Rc.einval, []) := by decide
example : nanosleep ⟨0, -1⟩ (clkStep ⟨100, 0⟩ 3) 10 = some (Rc.einval, []) := by decide
example : nanosleep ⟨-1, 0⟩ (clkStep ⟨100, 0⟩ 3) 10 = some (Rc.einval, []) := by decide
example : (nanosleep ⟨0, 999999999⟩ (clkStep ⟨100, 0⟩ 600000000) 10).map (·.1) = some Rc.ok := by decide

/-- a timed lock whose deadline is already past still makes its attempt and gets a free mutex -/
example : timedlock ⟨5, 0⟩ (clkStep ⟨100, 0⟩ 1) (fun _ => true) 0 = some (Rc.ok, [Ev.attempt true]) := by decide

/-- held all the time: timeout at the first reading past the deadline, after 3 attempts -/
example : timedlock ⟨100, 1⟩ (clkStep ⟨100, 0⟩ 1) (fun _ => false) 10 =
    some (Rc.etimedout, [Ev.attempt false, Ev.clock ⟨100, 0⟩, Ev.attempt false, Ev.yield,
      Ev.clock ⟨100, 1⟩, Ev.attempt false, Ev.yield, Ev.clock ⟨100, 2⟩]) := by decide

/-- released before the deadline: success at the third attempt -/
example : timedlock ⟨100, 5⟩ (clkStep ⟨100, 0⟩ 1) (fun k => decide (k ≥ 2)) 10 =
    some (Rc.ok, [Ev.attempt false, Ev.clock ⟨100, 0⟩, Ev.attempt false, Ev.yield,
      Ev.clock ⟨100, 1⟩, Ev.attempt true]) := by decide

/-- **the pinned snapshot violated C20 (1)**: with `tv_sec = INT64_MAX` the pinned addition wraps
    to a time in the past and `myth_nanosleep` returns 0 at its very first check — a valid request,
    normalised in-range readings, yet the reading it returned on is earlier than start + req. -/
theorem C20_pinned_nanosleep_returns_early :
    let req : Ts := ⟨tMax, 0⟩
    let clk : Clock := clkStep ⟨100, 0⟩ 1
    (0 ≤ req.sec ∧ Norm req ∧ InT req.sec) ∧
    nanosleepPinned req clk 1 = some (Rc.ok, [Ev.clock (clk 0), Ev.clock (clk 1)]) ∧
    toNs (clk 1) < toNs (clk 0) + toNs req := by decide

/-- … while the current source never returns 0 on that input (every reading is before the saturated
    wake-up time) -/
theorem C20_fixed_nanosleep_overflow_never_returns (clk : Clock) (fuel : Nat)
    (hclk : ∀ i, Norm (clk i) ∧ InT (clk i).sec) (h0 : 0 < (clk 0).sec) :
    nanosleep ⟨tMax, 0⟩ clk fuel = none :=
  nanosleep_overflow _ clk fuel hclk (by decide) (by decide)
    (by have := carry_le (clk 0) ⟨tMax, 0⟩; simp only; omega)

/-- **the pinned snapshot violated C20 (2)**: `myth_timedjoin` reported an expired deadline with
    EBUSY, which is not a timeout error (pthread_timedjoin_np: ETIMEDOUT) -/
theorem C20_pinned_timedjoin_timeout_is_ebusy :
    timedjoinPinned ⟨5, 0⟩ (clkStep ⟨100, 0⟩ 1) (fun _ => false) 1 =
      some (Rc.ebusy, [Ev.attempt false, Ev.clock ⟨100, 0⟩]) ∧ Rc.ebusy ≠ Rc.etimedout := by decide

end MythVerif.Time
