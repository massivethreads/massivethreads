import MythVerif.Proofs.Tls
/-!
# C10 — thread-specific data is private to (thread, key) and follows the thread

Model: `MythVerif.Tls` (`myth_tls_tree_get/set`, the key allocator).  Quantification: every
geometry (in particular the compiled-in one), every key index (any `int`), every history.
-/
namespace MythVerif.Tls

/-- valid key index, as tested by `get`/`set` (`idx < 0 || idx >= myth_tls_n_keys` rejects) -/
def validKey (g : Geo) (k : Int) : Prop := 0 ≤ k ∧ k < g.nKeys

instance (g : Geo) (k : Int) : Decidable (validKey g k) := by unfold validKey; infer_instance

/-- one `set` followed by one `get`: the tree is a map on valid keys and rejects the others -/
theorem C10_get_set (g : Geo) (t : Tree) (k k' : Int) (v : Val) (ht : TreeWT g t) :
    get g (set g t k v).1 k' = if k' = k ∧ validKey g k then v else get g t k' := by
  by_cases hk : k < 0 ∨ k ≥ g.nKeys
  · have : ¬ validKey g k := by unfold validKey; omega
    simp [set, hk, this]
  · have hv : validKey g k := by unfold validKey; omega
    simp only [set, hk, if_false, hv, and_true]
    by_cases hk' : k' < 0 ∨ k' ≥ g.nKeys
    · have : k' ≠ k := by omega
      simp [get, hk', this]
    · simp only [get, hk', if_false]
      have e1 : k.toNat % g.span g.depth = k.toNat := Nat.mod_eq_of_lt (by simp [Geo.nKeys] at *; omega)
      have e2 : k'.toNat % g.span g.depth = k'.toNat := Nat.mod_eq_of_lt (by simp [Geo.nKeys] at *; omega)
      have e3 : (k'.toNat = k.toNat) ↔ (k' = k) := by omega
      cases t with
      | none =>
        simp only
        rw [getRec_setRec g _ _ _ _ _ (fresh_WT _), getRec_fresh, e1, e2]
        simp only [e3]
      | some n =>
        simp only
        rw [getRec_setRec g _ _ _ _ _ ht, e1, e2]
        simp only [e3]

/-- `set` on an invalid index returns EINVAL and changes nothing; `get` answers NULL -/
theorem C10_invalid_key_rejected (g : Geo) (t : Tree) (k : Int) (v : Val) (h : ¬ validKey g k) :
    set g t k v = (t, 22) ∧ get g t k = 0 := by
  have : k < 0 ∨ k ≥ g.nKeys := by unfold validKey at h; omega
  simp [set, get, this]

theorem C10_valid_set_ok (g : Geo) (t : Tree) (k : Int) (v : Val) (h : validKey g k) :
    (set g t k v).2 = 0 := by
  have : ¬ (k < 0 ∨ k ≥ g.nKeys) := by unfold validKey at h; omega
  simp [set, this]

/-- abstract spec: a total map from keys to values, NULL everywhere at thread creation -/
def specMap (g : Geo) (ops : List (Int × Val)) : Int → Val :=
  ops.foldl (fun m op => if validKey g op.1 then upd m op.1 op.2 else m) (fun _ => 0)

def treeOfFrom (g : Geo) (t : Tree) (ops : List (Int × Val)) : Tree :=
  ops.foldl (fun t op => (set g t op.1 op.2).1) t

/-- **refinement**: after any sequence of stores a thread reads back exactly what the abstract
    map holds: its latest store under that key, NULL if it never stored, unaffected by stores
    under other keys -/
theorem C10_tree_refines_map (g : Geo) (ops : List (Int × Val)) (k : Int) :
    get g (treeOfFrom g none ops) k = specMap g ops k := by
  unfold specMap
  suffices h : ∀ (t : Tree) (m : Int → Val), TreeWT g t → (∀ k, get g t k = m k) →
      get g (treeOfFrom g t ops) k =
        ops.foldl (fun m op => if validKey g op.1 then upd m op.1 op.2 else m) m k by
    exact h none _ trivial (by intro k; simp [get])
  induction ops with
  | nil => intro t m _ h; exact h k
  | cons op ops ih =>
    intro t m ht h
    simp only [treeOfFrom, List.foldl_cons]
    apply ih _ _ (set_WT g t _ _ ht)
    intro k'
    rw [C10_get_set g t _ _ _ ht]
    by_cases hv : validKey g op.1
    · simp only [hv, and_true, if_true, upd_apply, h]
    · simp [hv, h]

/-- the radix decomposition used by the code is injective on `[0, span (d+1))`:
    equal child index and equal remainder identify the key -/
theorem C10_index_decomp (g : Geo) (d a b : Nat) (ha : a < g.span (d + 1)) (hb : b < g.span (d + 1))
    (h1 : cidx g d a = cidx g d b) (h2 : a % g.span d = b % g.span d) : a = b := by
  have := (mod_mul_eq_iff a b (g.span d) g.nC (g.span_pos d)).mpr ⟨h1, h2⟩
  rw [← Geo.span_succ, Nat.mod_eq_of_lt ha, Nat.mod_eq_of_lt hb] at this
  exact this

/-- the `/`,`%` form of the child index is the code's shift-and-mask -/
theorem C10_cidx_bits (g : Geo) (d idx : Nat) :
    cidx g d idx = (idx >>> (d * g.logC + g.logL)) &&& (g.nC - 1) := by
  unfold cidx Geo.span Geo.nC Geo.nL
  rw [Nat.and_two_pow_sub_one_eq_mod, Nat.shiftRight_eq_div_pow, ← Nat.pow_mul, ← Nat.pow_add,
    Nat.mul_comm g.logC d, Nat.add_comm]

/-! ### privacy between threads: each descriptor carries its own tree -/

/-- all threads' trees (the tree is embedded in the thread descriptor, so migrating a thread
    between workers moves it as a unit: workers do not appear in this state at all) -/
abbrev World := Nat → Tree

def wset (g : Geo) (w : World) (tid : Nat) (k : Int) (v : Val) : World := upd w tid (set g (w tid) k v).1
def wget (g : Geo) (w : World) (tid : Nat) (k : Int) : Val := get g (w tid) k

theorem C10_private_per_thread (g : Geo) (w : World) (a b : Nat) (k k' : Int) (v : Val)
    (hw : ∀ t, TreeWT g (w t)) :
    wget g (wset g w a k v) b k' = if b = a ∧ k' = k ∧ validKey g k then v else wget g w b k' := by
  unfold wget wset
  by_cases hab : b = a
  · subst hab; simp only [upd_same, true_and]; exact C10_get_set g _ _ _ _ (hw b)
  · rw [upd_other _ _ _ _ hab]; simp [hab]

theorem C10_world_WT (g : Geo) (w : World) (a : Nat) (k : Int) (v : Val) (hw : ∀ t, TreeWT g (w t)) :
    ∀ t, TreeWT g (wset g w a k v t) := by
  intro t
  unfold wset
  by_cases h : t = a
  · subst h; simp only [upd_same]; exact set_WT g _ _ _ (hw t)
  · rw [upd_other _ _ _ _ h]; exact hw t

/-! ### sequential key allocator -/

/-- allocator invariant for a table of `n` cells -/
structure KeysInv (n : Nat) (s : Keys) : Prop where
  nodup : s.free.Nodup
  range : ∀ k ∈ s.free, k < n
  dead  : ∀ k ∈ s.free, s.live k = false
  all   : ∀ k, k < n → s.live k = false → k ∈ s.free
  liveR : ∀ k, s.live k = true → k < n

theorem keys_init_inv (n : Nat) : KeysInv n (Keys.init n) := by
  constructor <;> simp [Keys.init, List.nodup_range]

theorem keys_alloc_inv (n : Nat) (s : Keys) (d : Option Nat) (h : KeysInv n s) :
    KeysInv n (s.alloc d).1 := by
  unfold Keys.alloc
  cases hf : s.free with
  | nil => simpa using h
  | cons k rest =>
    obtain ⟨h1, h2, h3, h4, h5⟩ := h
    rw [hf] at h1 h2 h3 h4
    have hnd := List.nodup_cons.mp h1
    constructor
    · exact hnd.2
    · intro j hj; exact h2 j (by simp [hj])
    · intro j hj
      have : j ≠ k := by intro e; subst e; exact hnd.1 hj
      simp only [upd_apply, this, if_false]; exact h3 j (by simp [hj])
    · intro j hj hl
      by_cases e : j = k
      · subst e; simp at hl
      · simp only [upd_apply, e, if_false] at hl
        have := h4 j hj hl
        simpa [e] using this
    · intro j hl
      by_cases e : j = k
      · subst e; exact h2 j (by simp)
      · simp only [upd_apply, e, if_false] at hl; exact h5 j hl

theorem keys_dealloc_inv (g : Geo) (s : Keys) (key : Int) (h : KeysInv g.nKeys s) :
    KeysInv g.nKeys (s.dealloc g key).1 := by
  by_cases hk : validKey g key ∧ s.live key.toNat = true
  · rw [dealloc_live g s key hk]
    obtain ⟨h1, h2, h3, h4, h5⟩ := h
    obtain ⟨hv, hlive⟩ := hk
    have hlt : key.toNat < g.nKeys := by unfold validKey at hv; omega
    constructor
    · refine List.nodup_cons.mpr ⟨?_, h1⟩
      intro hm; have := h3 _ hm; simp [hlive] at this
    · intro j hj
      rcases List.mem_cons.mp hj with e | e
      · subst e; exact hlt
      · exact h2 j e
    · intro j hj
      rcases List.mem_cons.mp hj with e | e
      · subst e; simp
      · have : j ≠ key.toNat := by intro e'; subst e'; have := h3 _ e; simp [hlive] at this
        simp only [upd_apply, this, if_false]; exact h3 j e
    · intro j hj hl'
      by_cases e : j = key.toNat
      · simp [e]
      · simp only [upd_apply, e, if_false] at hl'
        exact List.mem_cons_of_mem _ (h4 j hj hl')
    · intro j hl'
      by_cases e : j = key.toNat
      · subst e; exact hlt
      · simp only [upd_apply, e, if_false] at hl'; exact h5 j hl'
  · rw [dealloc_rejected g s key hk]; exact h

inductive KOp where
  | create (d : Option Nat)
  | delete (k : Int)

def kstep (g : Geo) (s : Keys) : KOp → Keys
  | .create d => (s.alloc d).1
  | .delete k => (s.dealloc g k).1

/-- the allocator invariant holds after every history of create / delete -/
theorem keys_inv_history (g : Geo) (ops : List KOp) :
    KeysInv g.nKeys (ops.foldl (kstep g) (Keys.init g.nKeys)) := by
  suffices h : ∀ s, KeysInv g.nKeys s → KeysInv g.nKeys (ops.foldl (kstep g) s) from
    h _ (keys_init_inv _)
  induction ops with
  | nil => intro s h; exact h
  | cons op ops ih =>
    intro s h
    apply ih
    cases op with
    | create d => exact keys_alloc_inv _ s d h
    | delete k => exact keys_dealloc_inv g s k h

/-- **keys are pairwise distinct while live** (sequential histories): after any history a
    successful create returns an index inside the table that was not live, and makes it live;
    every other key keeps its status -/
theorem C10_keys_distinct_seq (g : Geo) (ops : List KOp) (d : Option Nat) (k : Int)
    (h : ((ops.foldl (kstep g) (Keys.init g.nKeys)).alloc d).2 = k) (hk : k ≠ -1) :
    let s := ops.foldl (kstep g) (Keys.init g.nKeys)
    0 ≤ k ∧ k < g.nKeys ∧ s.live k.toNat = false ∧ (s.alloc d).1.live k.toNat = true ∧
      ∀ j, j ≠ k.toNat → (s.alloc d).1.live j = s.live j :=
  have hi := keys_inv_history g ops
  alloc_fresh g.nKeys _ hi.range hi.dead d k h hk

/-- after any history, create fails exactly when all cells are live -/
theorem C10_create_fails_iff_full (g : Geo) (ops : List KOp) (d : Option Nat) :
    let s := ops.foldl (kstep g) (Keys.init g.nKeys)
    (s.alloc d).2 = -1 ↔ ∀ k, k < g.nKeys → s.live k = true :=
  have hi := keys_inv_history g ops
  alloc_fails_iff g.nKeys _ hi.range hi.dead hi.all d

/-- deleting a dead or out-of-range key is rejected with EINVAL and changes nothing;
    deleting a live key succeeds and makes exactly that key dead -/
theorem C10_delete (g : Geo) (s : Keys) (k : Int) :
    (¬ (validKey g k ∧ s.live k.toNat = true) → s.dealloc g k = (s, 22)) ∧
    (validKey g k ∧ s.live k.toNat = true →
      (s.dealloc g k).2 = 0 ∧ (s.dealloc g k).1.live k.toNat = false ∧
      ∀ j, j ≠ k.toNat → (s.dealloc g k).1.live j = s.live j) := by
  refine ⟨dealloc_rejected g s k, fun h => ?_⟩
  rw [dealloc_live g s k h]
  refine ⟨rfl, by simp, ?_⟩
  intro j hj; simp [hj]

/-- **a deleted key has no destructor any more** (`myth_key_delete` clears it), the destructors of
    all other keys are untouched, and the next `create` reuses the key and installs exactly the
    new destructor -/
theorem C10_delete_clears_destructor (g : Geo) (s : Keys) (k : Int) (h : validKey g k ∧ s.live k.toNat = true) :
    (s.dealloc g k).1.dtor k.toNat = none ∧
    (∀ j, j ≠ k.toNat → (s.dealloc g k).1.dtor j = s.dtor j) ∧
    (∀ d, ((s.dealloc g k).1.alloc d).2 = k.toNat ∧ ((s.dealloc g k).1.alloc d).1.dtor k.toNat = d) := by
  rw [dealloc_live g s k h]
  refine ⟨by simp, ?_, ?_⟩
  · intro j hj; simp [hj]
  · intro d; simp [Keys.alloc]

/-! ### non-vacuity -/
example : get geo (treeOfFrom geo none [(5, 1), (1023, 2), (-1, 3), (1024, 4)]) 1023 = 2 := by decide
example : geo.nKeys = 1024 := by decide

/-- the model's geometry is the one compiled into the library (regenerated constants) -/
theorem C10_geo_matches_source : geo.nKeys = Gen.tlsNKeys ∧ geo.nC = 2 ^ Gen.tlsLogChildren ∧
    geo.nL = 2 ^ Gen.tlsLogLeaf ∧ geo.depth = Gen.tlsDepth := by decide
end MythVerif.Tls
