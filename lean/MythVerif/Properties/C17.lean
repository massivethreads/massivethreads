import MythVerif.Proofs.Bulk
import MythVerif.Proofs.ParFor
import MythVerif.Proofs.TaskGroup
/-!
# C17 — bulk fork-join helpers equal the sequential loop

Models: `MythVerif.Bulk` (`myth_create_join_various_ex` / `_many_ex`, `src/myth_sched_func.h`),
`MythVerif.ParFor` (`mtbb::parallel_for`, all forms, `src/mtbb/parallel_for.h`),
`MythVerif.TaskGroup` (`mtbb::task_group`, `src/mtbb/task_group.h`).

Quantification: every `n ≥ 0`, every base address and stride combination, `ids` / `results` /
`attrs` NULL or not; every `(first, last, step)` with `step ≥ 1`, every `grain ≥ 1`; every
sequence of `run` / `wait` calls on a task group with every task size; every schedule of the
created threads on any number of workers (`Sched`: all interleavings of a created thread with
its creator's continuation up to the join).  The recursions carry fuel (`none` = did not
finish), so termination is a theorem, not an assumption; the results do not depend on the fuel.

`parFor*` is the current source (range test at the entry points); `parForPinned*` is the
pinned snapshot, kept with its refutation (D8).
-/

namespace MythVerif.Bulk

/-- **termination**: `myth_create_join_various_ex` returns for every `n` (fuel `n + 1` is
    enough) and the fork-join structure it builds does not depend on the fuel -/
theorem C17_various_terminates (p : Params) (n : Nat) :
    ∃ t, variousF p (fuelFor n) n = some t ∧ ∀ fuel t', variousF p fuel n = some t' → t' = t :=
  variousF_terminates p n (fuelFor n) (Nat.le_succ n)

/-- **equals the sequential loop**: on one worker the item effects (store of the thread id, the
    call `f_i(args + i*arg_stride)`, store of the result) happen exactly as in
    `for i in [0,n)`, in that order; on any number of workers, in any schedule, they are a
    permutation of it — every item's effects happen exactly once before the helper returns,
    nothing else happens; `n - 1` threads are created -/
theorem C17_various_eq_loop (p : Params) (n fuel : Nat) (t : FJ Eff)
    (h : variousF p fuel n = some t) :
    t.seq.filter Eff.isItem = loop p n ∧
    (∀ s, Sched t s → (s.filter Eff.isItem).Perm (loop p n)) ∧
    t.forks = n - 1 := by
  obtain ⟨h1, h2⟩ := variousF_spec p n fuel t h
  refine ⟨h1, ?_, h2⟩
  intro s hs
  rw [← h1]
  exact hs.perm.filter _

/-- **each function applied exactly once to its argument**: in every schedule the calls, as
    (function slot, argument address) pairs, are those of the loop:
    `(funcs + i*func_stride, args + i*arg_stride)` for `i < n`, each once (as a multiset; for
    stride 0 the pairs repeat and are counted with multiplicity) -/
theorem C17_various_calls (p : Params) (n fuel : Nat) (t : FJ Eff) (s : List Eff)
    (h : variousF p fuel n = some t) (hs : Sched t s) :
    (s.filterMap Eff.callOf).Perm
      ((List.range n).map fun i => (p.funcs + i * p.funcStride, p.args + i * p.argStride)) := by
  rw [← loop_callOf]
  exact hs.observe _ callOf_nonitem (variousF_spec p n fuel t h).1

/-- **results and ids go to their strided slots, and nowhere else**: in every schedule the
    addresses stored to are exactly `results + i*result_stride` (when `results` is given) and
    `ids + i*id_stride` (when `ids` is given), `i < n`; with NULL nothing is stored -/
theorem C17_various_writes (p : Params) (n fuel : Nat) (t : FJ Eff) (s : List Eff)
    (h : variousF p fuel n = some t) (hs : Sched t s) :
    (s.filterMap Eff.resAddr).Perm
      (match p.results with
        | some r => (List.range n).map fun i => r + i * p.resStride
        | none => []) ∧
    (s.filterMap Eff.idAddr).Perm
      (match p.ids with
        | some r => (List.range n).map fun i => r + i * p.idStride
        | none => []) ∧
    (∀ a ∈ s.filterMap Eff.written,
      (∃ r i, p.results = some r ∧ i < n ∧ a = r + i * p.resStride) ∨
      (∃ r i, p.ids = some r ∧ i < n ∧ a = r + i * p.idStride)) := by
  have hL := (variousF_spec p n fuel t h).1
  have h1 := hs.observe _ resAddr_nonitem hL
  have h2 := hs.observe _ idAddr_nonitem hL
  rw [loop_resAddr] at h1
  rw [loop_idAddr] at h2
  refine ⟨h1, h2, ?_⟩
  intro a ha
  have hw := hs.observe _ written_nonitem' hL
  have ha' := hw.mem_iff.mp ha
  simp only [loop, List.filterMap_flatMap, List.mem_flatMap, List.mem_range] at ha'
  obtain ⟨i, hi, hm⟩ := ha'
  rw [written_item] at hm
  cases hids : p.ids with
  | none =>
    cases hres : p.results with
    | none => simp [hids, hres] at hm
    | some r => simp [hids, hres] at hm; exact .inl ⟨r, i, rfl, hi, hm⟩
  | some d =>
    cases hres : p.results with
    | none => simp [hids, hres] at hm; exact .inr ⟨d, i, rfl, hi, hm⟩
    | some r =>
      simp [hids, hres] at hm
      rcases hm with hm | hm
      · exact .inr ⟨d, i, rfl, hi, hm⟩
      · exact .inl ⟨r, i, rfl, hi, hm⟩

/-- **each slot written exactly once** (positive stride: the slots are distinct) -/
theorem C17_various_slot_once (p : Params) (n fuel : Nat) (t : FJ Eff) (s : List Eff)
    (h : variousF p fuel n = some t) (hs : Sched t s) (i : Nat) (hi : i < n) :
    (∀ r, p.results = some r → 0 < p.resStride →
      (s.filterMap Eff.resAddr).count (r + i * p.resStride) = 1) ∧
    (∀ r, p.ids = some r → 0 < p.idStride →
      (s.filterMap Eff.idAddr).count (r + i * p.idStride) = 1) := by
  obtain ⟨h1, h2, _⟩ := C17_various_writes p n fuel t s h hs
  constructor
  · intro r hr hst
    rw [hr] at h1
    rw [h1.count_eq]
    exact count_strided r _ n i hst hi
  · intro r hr hst
    rw [hr] at h2
    rw [h2.count_eq]
    exact count_strided r _ n i hst hi

/-- **`n = 0` does nothing**: no call, no store, no thread, for every fuel and in every schedule -/
theorem C17_various_zero (p : Params) (fuel : Nat) :
    variousF p fuel 0 = some (.leaf []) ∧ ∀ s, Sched (.leaf ([] : List Eff)) s → s = [] := by
  refine ⟨by simp [variousF], ?_⟩
  intro s hs
  cases hs
  rfl

/-- **`many` is `various` with function stride 0**: same structure, and every call goes
    through the one function slot -/
theorem C17_many_eq_various (ids attrs : Option Nat) (slot args : Nat) (results : Option Nat)
    (idStride attrStride argStride resStride fuel n : Nat) :
    manyF ids attrs slot args results idStride attrStride argStride resStride fuel n =
      variousF { ids, attrs, funcs := slot, args, results, idStride, attrStride,
                 funcStride := 0, argStride, resStride } fuel n ∧
    ∀ t s, manyF ids attrs slot args results idStride attrStride argStride resStride fuel n = some t →
      Sched t s → (s.filterMap Eff.callOf).Perm ((List.range n).map fun i => (slot, args + i * argStride)) := by
  refine ⟨rfl, ?_⟩
  intro t s h hs
  have := C17_various_calls _ n fuel t s h hs
  simpa using this

/-- **returns only after everything**: in every schedule of a fork, what follows the join comes
    after all effects of the created thread and of the continuation, what precedes the creation
    comes before them -/
theorem C17_join_after_all {ε : Type} (pre post : List ε) (l r : FJ ε) (s : List ε)
    (h : Sched (.fork pre l r post) s) :
    ∃ m, s = pre ++ m ++ post ∧ m.Perm (l.seq ++ r.seq) :=
  h.fork_inv

/-- the one-worker order is one of the schedules (so the statements about all schedules are
    not vacuous) -/
theorem C17_seq_is_schedule {ε : Type} (t : FJ ε) : Sched t t.seq := Sched.of_seq t

def pEx : Params := { ids := some 1000, results := some 2000, funcs := 3000, args := 4000,
                      idStride := 8, resStride := 16, funcStride := 8, argStride := 24 }

example : (variousF pEx (fuelFor 5) 5).map (fun t => (t.seq.filter Eff.isItem, t.forks)) =
    some (loop pEx 5, 4) := by decide

example : (variousF pEx (fuelFor 3) 3).map FJ.seq = some
    [.split 0 1 3, .attr none 0, .storeId 1000 0, .call 3000 4000 0, .storeRes 2000 0,
     .split 1 2 3, .attr none 1, .storeId 1008 1, .call 3008 4024 1, .storeRes 2016 1,
     .storeId 1016 2, .call 3016 4048 2, .storeRes 2032 2, .joined 1 2 3, .joined 0 1 3] := by decide

end MythVerif.Bulk

namespace MythVerif.ParFor
open MythVerif.Bulk

/-- **`parallel_for(first, last, step, f)` is the sequential loop** (`step ≥ 1`): it returns;
    on one worker the body is called on exactly the indices of
    `for (i = first; i < last; i += step)`, in that order; in every schedule on any number of
    workers on a permutation of them (each index exactly once, no other index); the body is
    never called on a chunk -/
theorem C17_parfor_eq_loop (first last step : Int) (hs : 0 < step) :
    ∃ t, parForStep first last step (fuelFor (last - first)) = some t ∧
      t.seq = (seqLoop first last step).map Ev.call ∧
      ∀ s, Sched t s → (calls s).Perm (seqLoop first last step) ∧ chunks s = [] := by
  have key : ∀ t : FJ Ev, t.seq = (seqLoop first last step).map Ev.call →
      ∀ s, Sched t s → (calls s).Perm (seqLoop first last step) ∧ chunks s = [] := by
    intro t ht s hsch
    have hp := hsch.perm
    rw [ht] at hp
    constructor
    · have := calls_perm hp
      rwa [calls_map_call] at this
    · have := chunks_perm hp
      rw [chunks_map_call] at this
      exact this.eq_nil
  unfold parForStep
  by_cases h : first < last
  · rw [if_neg (by omega)]
    obtain ⟨c0, c1, c2⟩ := count_bounds first last step hs h
    have hle := count_le first last step hs h
    obtain ⟨t, ht, hseq⟩ := auxF_spec first step (fuelFor (last - first)) 0 (count first last step)
      c0 (by unfold fuelFor; omega)
    refine ⟨t, ht, ?_, ?_⟩
    · rw [hseq, seqLoop_eq_idx first last step hs h]; simp
    · exact key t (by rw [hseq, seqLoop_eq_idx first last step hs h]; simp)
  · rw [if_pos h]
    refine ⟨_, rfl, ?_, ?_⟩
    · simp [FJ.seq, seqLoop_empty first last step h]
    · exact key _ (by simp [FJ.seq, seqLoop_empty first last step h])

/-- **`parallel_for(first, last, f)`** is `for (i = first; i < last; i++) f(i)` -/
theorem C17_parfor_unit_step (first last : Int) :
    ∃ t, parFor first last (fuelFor (last - first)) = some t ∧
      t.seq = (seqLoop first last 1).map Ev.call ∧
      ∀ s, Sched t s → (calls s).Perm (seqLoop first last 1) := by
  rw [parFor_eq_parForStep]
  obtain ⟨t, ht, hseq, hall⟩ := C17_parfor_eq_loop first last 1 (by omega)
  exact ⟨t, ht, hseq, fun s hs => (hall s hs).1⟩

/-- **empty and reversed ranges**: the three integer forms return without calling the body at
    all, for every fuel (also for a non-positive step or grain: the range test comes first); the
    range-class form is covered by `C17_range_form` -/
theorem C17_parfor_empty (first last step grain : Int) (fuel : Nat) (h : ¬ first < last) :
    parFor first last fuel = some (.leaf []) ∧
    parForStep first last step fuel = some (.leaf []) ∧
    parForGrain first last step grain fuel = some (.leaf []) ∧
    seqLoop first last step = [] := by
  refine ⟨?_, ?_, ?_, seqLoop_empty first last step h⟩ <;>
    simp [parFor, parForStep, parForGrain, h]

/-- **the results do not depend on the fuel**: once a form returns within some fuel it returns
    the same structure within every larger fuel (so "returns" is meaningful) -/
theorem C17_parfor_fuel_irrelevant (first last step grain : Int) (fuel fuel' : Nat)
    (hle : fuel ≤ fuel') (t : FJ Ev) :
    (parFor first last fuel = some t → parFor first last fuel' = some t) ∧
    (parForStep first last step fuel = some t → parForStep first last step fuel' = some t) ∧
    (parForGrain first last step grain fuel = some t →
      parForGrain first last step grain fuel' = some t) := by
  unfold parFor parForStep parForGrain
  by_cases h : first < last
  · simp only [h, not_true_eq_false, if_false]
    exact ⟨auxF_mono_le first 1 fuel fuel' _ _ t hle, auxF_mono_le first step fuel fuel' _ _ t hle,
      grainAuxF_mono_le first step grain fuel fuel' _ _ t hle⟩
  · simp only [h, not_false_eq_true, if_true]
    exact ⟨id, id, id⟩

/-- **the pinned snapshot violated C17** (D8): on an empty or reversed range — e.g.
    `mtbb::parallel_for(3, 3, f)` — the pinned entry points hand `b ≤ a` to `parallel_for_aux`,
    whose recursion has no base case for it: no amount of fuel lets the call return -/
theorem C17_parfor_pinned_diverges (first last step : Int) (h : ¬ first < last) :
    (∀ fuel, parForPinned first last fuel = none) ∧
    (0 < step → ∀ fuel, parForPinnedStep first last step fuel = none) := by
  constructor
  · intro fuel
    exact auxF_diverges first 1 fuel 0 (last - first) (by omega)
  · intro hs fuel
    exact auxF_diverges _ _ _ _ _ (by have := count_nonpos first last step hs h; omega)

/-- the concrete witness of DESIGN §5 D8 -/
theorem C17_parfor_pinned_3_3 : ∀ fuel, parForPinned 3 3 fuel = none :=
  (C17_parfor_pinned_diverges 3 3 1 (by omega)).1

/-- **grain-size form** (`step ≥ 1`, `grain ≥ 1`): it returns; the body is called on chunks
    `[lo,hi)` only; the chunk loops `for (i = lo; i < hi; i += step)`, chunk after chunk, visit
    exactly the indices of the sequential loop, in order — so every index is covered by exactly
    one chunk —; every chunk is non-empty, at most `grain` indices wide, starts at or after
    `first` and ends at or before `first + count * step` (the end of the last iteration's step,
    which may lie beyond `last`); in every schedule the chunks are a permutation of those -/
theorem C17_grain (first last step grain : Int) (hs : 0 < step) (hg : 1 ≤ grain) :
    ∃ t, parForGrain first last step grain (fuelFor (last - first)) = some t ∧
      calls t.seq = [] ∧
      covered step (chunks t.seq) = seqLoop first last step ∧
      (∀ c ∈ chunks t.seq, first ≤ c.1 ∧ c.1 < c.2 ∧ c.2 - c.1 ≤ grain * step ∧
        c.2 ≤ first + count first last step * step) ∧
      ∀ s, Sched t s → (chunks s).Perm (chunks t.seq) ∧ calls s = [] := by
  have sched : ∀ t : FJ Ev, calls t.seq = [] →
      ∀ s, Sched t s → (chunks s).Perm (chunks t.seq) ∧ calls s = [] := by
    intro t ht s hsch
    have hp := hsch.perm
    refine ⟨chunks_perm hp, ?_⟩
    have := calls_perm hp
    rw [ht] at this
    exact this.eq_nil
  unfold parForGrain
  by_cases h : first < last
  · rw [if_neg (by omega)]
    obtain ⟨c0, c1, c2⟩ := count_bounds first last step hs h
    have hle := count_le first last step hs h
    obtain ⟨t, cs, ht, htl, hseq⟩ := grainAuxF_spec first step grain hg
      (fuelFor (last - first)) 0 (count first last step) c0 (by unfold fuelFor; omega)
    have hch : chunks t.seq = cs.map fun c => (first + c.1 * step, first + c.2 * step) := by
      rw [hseq]; exact chunks_map_chunk _ _ cs
    have hca : calls t.seq = [] := by
      rw [hseq]; exact calls_map_chunk _ _ cs
    refine ⟨t, ht, hca, ?_, ?_, sched t hca⟩
    · rw [hch, htl.covered_eq first step grain hs, seqLoop_eq_idx first last step hs h]
      simp
    · intro c hc
      rw [hch] at hc
      obtain ⟨x, hx, rfl⟩ := List.mem_map.mp hc
      obtain ⟨m1, m2, m3, m4⟩ := Tiles.mem grain cs _ _ htl x hx
      simp only
      have e1 : 0 ≤ x.1 * step := Int.mul_nonneg m1 (by omega)
      have e2 : x.1 * step < x.2 * step := Int.mul_lt_mul_of_pos_right m2 hs
      have e3 : (x.2 - x.1) * step ≤ grain * step := Int.mul_le_mul_of_nonneg_right m3 (by omega)
      have e4 : x.2 * step ≤ count first last step * step := Int.mul_le_mul_of_nonneg_right m4 (by omega)
      rw [Int.sub_mul] at e3
      refine ⟨by omega, by omega, by omega, by omega⟩
  · rw [if_pos h]
    refine ⟨_, rfl, by simp [FJ.seq, calls], by simp [FJ.seq, chunks, covered, seqLoop_empty first last step h],
      by simp [FJ.seq, chunks], sched _ (by simp [FJ.seq, calls])⟩

/-- every index of the loop is visited by the chunk loops exactly once -/
theorem C17_grain_each_index_once (first last step grain : Int) (hs : 0 < step) (hg : 1 ≤ grain)
    (t : FJ Ev) (h : parForGrain first last step grain (fuelFor (last - first)) = some t) (i : Int) :
    (covered step (chunks t.seq)).count i = if i ∈ seqLoop first last step then 1 else 0 := by
  obtain ⟨t', ht', _, hc, _⟩ := C17_grain first last step grain hs hg
  rw [h] at ht'
  cases ht'
  rw [hc]
  apply List.Nodup.count
  by_cases hfl : first < last
  · rw [seqLoop_eq_idx first last step hs hfl]
    unfold idx
    apply List.Pairwise.map _ _ List.nodup_range
    intro a b hab heq
    apply hab
    have h1 : ((a : Int)) * step = (b : Int) * step := by
      simp only [Int.zero_add] at heq; omega
    have := Int.eq_of_mul_eq_mul_right (by omega) h1
    omega
  · rw [seqLoop_empty first last step hfl]; exact List.nodup_nil

/-- **the pinned grain-size form called the body on an empty range** (second part of D8's
    family): with `last ≤ first` it made one call `f(first, first + n*step)` with `n ≤ 0`, an
    empty or reversed chunk, where the property demands no call at all -/
theorem C17_grain_pinned_calls_body_on_empty (first last step grain : Int) (fuel : Nat)
    (h : ¬ first < last) (hs : 0 < step) (hg : 0 ≤ grain) :
    ∃ hi, hi ≤ first ∧
      parForGrainPinned first last step grain (fuel + 1) = some (.leaf [Ev.chunk first hi]) := by
  have hc := count_nonpos first last step hs h
  refine ⟨first + count first last step * step, ?_, ?_⟩
  · have : count first last step * step ≤ 0 := Int.mul_nonpos_of_nonpos_of_nonneg hc (by omega)
    omega
  · unfold parForGrainPinned grainAuxF
    rw [if_pos (by omega)]
    simp

/-- **range-class form** over `(begin, end, grain)`, `grain ≥ 1`: it returns; an empty range
    makes no call; otherwise the chunks `[lo,hi)` handed to the body tile `[begin,end)` from left
    to right, each non-empty and at most `grain` wide, and their loops visit `begin … end-1`
    once each in order -/
theorem C17_range_form (grain b e : Int) (hg : 1 ≤ grain) :
    ∃ t, rangeF grain (fuelFor (e - b)) b e = some t ∧
      calls t.seq = [] ∧
      covered 1 (chunks t.seq) = seqLoop b e 1 ∧
      (∀ c ∈ chunks t.seq, b ≤ c.1 ∧ c.1 < c.2 ∧ c.2 - c.1 ≤ grain ∧ c.2 ≤ e) ∧
      (¬ b < e → t.seq = []) ∧
      ∀ s, Sched t s → (chunks s).Perm (chunks t.seq) ∧ (calls s).Perm (calls t.seq) := by
  obtain ⟨t, cs, ht, hseq, htl⟩ := rangeF_spec grain hg (fuelFor (e - b)) b e (by unfold fuelFor; omega)
  have hch : chunks t.seq = cs := by
    rw [hseq, chunks_map_chunk]; simp
  refine ⟨t, ht, by rw [hseq]; exact calls_map_chunk _ _ cs, ?_, ?_, ?_,
    fun s hs => ⟨chunks_perm hs.perm, calls_perm hs.perm⟩⟩
  · rw [hch]
    by_cases hbe : b < e
    · rw [if_pos hbe] at htl
      have := htl.covered_eq 0 1 grain (by omega)
      simp only [Int.mul_one, Int.zero_add, List.map_id'] at this
      rw [this]
      rw [seqLoop_eq_idx b e 1 (by omega) hbe, count_one b e hbe]
      unfold idx
      apply List.map_congr_left
      intro k _
      omega
    · rw [if_neg hbe] at htl
      rw [htl, seqLoop_empty b e 1 hbe]; rfl
  · intro c hc
    rw [hch] at hc
    by_cases hbe : b < e
    · rw [if_pos hbe] at htl
      exact Tiles.mem grain cs _ _ htl c hc
    · rw [if_neg hbe] at htl; rw [htl] at hc; simp at hc
  · intro hbe
    rw [if_neg hbe] at htl
    rw [hseq, htl]; rfl

example : (parForStep 3 20 4 (fuelFor 17)).map (fun t => calls t.seq) = some [3, 7, 11, 15, 19] := by decide
example : seqLoop 3 20 4 = [3, 7, 11, 15, 19] := by decide
example : (parForGrain 0 10 1 3 (fuelFor 10)).map (fun t => chunks t.seq) =
    some [(0, 2), (2, 5), (5, 7), (7, 10)] := by decide
example : ((parFor 3 3 5).map FJ.seq, (parFor 5 3 5).map FJ.seq) = (some [], some []) := by decide
example : (parForGrainPinned 3 3 1 2 1).map FJ.seq = some [Ev.chunk 3 3] := by decide
example : (rangeF 2 (fuelFor 7) 0 7).map (fun t => chunks t.seq) =
    some [(0, 1), (1, 3), (3, 5), (5, 7)] := by decide

end MythVerif.ParFor

namespace MythVerif.TaskGroup
open MythVerif.Bulk

/-- **`wait` joins exactly the tasks added, in order, and leaves the lists empty**: in any
    reachable state, after any number of further `run` calls (with any task sizes — also more
    than the inline capacity of the list, more than a memory chunk), `wait` joins the tasks
    still pending followed by the new ones, each once, in `run` order, and afterwards the task
    list is the empty inline node and the allocator the empty inline chunk -/
theorem C17_taskgroup_wait_all (cfg : Cfg) (hc : 0 < cfg.cap) (g : TG) (hr : Reach cfg g)
    (sizes : List Nat) :
    ((g.runs cfg sizes).wait cfg).1 =
        List.range' (g.next - g.blocks.length) (g.blocks.length + sizes.length) ∧
    ((g.runs cfg sizes).wait cfg).2.tasks = TaskList.init ∧
    ((g.runs cfg sizes).wait cfg).2.mem = Mem.init cfg ∧
    ((g.runs cfg sizes).wait cfg).2.blocks = [] := by
  have hi := runs_inv cfg hc sizes g (reach_inv cfg hc g hr)
  have hb := runs_blocks cfg sizes g
  have hlen : (g.runs cfg sizes).blocks.length = g.blocks.length + sizes.length := by
    have := congrArg List.length hb.1
    simpa using this
  refine ⟨?_, rfl, rfl, rfl⟩
  simp only [TG.wait]
  rw [hi.ids, hlen, hb.2]
  congr 1
  have := (reach_inv cfg hc g hr).le
  omega

/-- the fresh task group: `k` runs then `wait` joins tasks `0 … k-1` in order -/
theorem C17_taskgroup_wait_fresh (cfg : Cfg) (hc : 0 < cfg.cap) (sizes : List Nat) :
    (((TG.init cfg).runs cfg sizes).wait cfg).1 = List.range sizes.length := by
  have := (C17_taskgroup_wait_all cfg hc _ Reach.init sizes).1
  rw [this, List.range_eq_range']
  simp [TG.init]

/-- **chunked list**: in every reachable state every node before the tail holds exactly
    `capacity` tasks, the tail at most `capacity`, and a heap node is never empty -/
theorem C17_taskgroup_list_shape (cfg : Cfg) (hc : 0 < cfg.cap) (g : TG) (hr : Reach cfg g) :
    (∀ n ∈ g.tasks.full, n.length = cfg.cap) ∧ g.tasks.tail.length ≤ cfg.cap ∧
    (g.tasks.full ≠ [] → g.tasks.tail ≠ []) :=
  (reach_inv cfg hc g hr).shape

/-- **task memory blocks are disjoint**: in every reachable state the blocks handed out since
    the last `wait` are pairwise disjoint, each lies inside the used part of its chunk, which is
    inside the chunk; a block has the size requested -/
theorem C17_task_memory_disjoint (cfg : Cfg) (hc : 0 < cfg.cap) (g : TG) (hr : Reach cfg g) :
    g.blocks.Pairwise Block.disjoint ∧
    (∀ b ∈ g.blocks, ∃ sz used, g.mem.chunks[b.chunk]? = some (sz, used) ∧
      b.off + b.size ≤ used ∧ used ≤ sz) ∧
    ∀ sizes, (g.runs cfg sizes).blocks.map Block.size = g.blocks.map Block.size ++ sizes := by
  have hi := reach_inv cfg hc g hr
  exact ⟨hi.mem.2.2, hi.mem.2.1, fun sizes => (runs_blocks cfg sizes g).1⟩

/-- **every task handed to a task group has completed when `wait` returns**: in every schedule
    of `tg.run(t₁); …; tg.run(tₖ); rest; tg.wait()` all effects of all tasks (and of `rest`) have
    happened, each exactly once, by the time `wait` returns -/
theorem C17_taskgroup_all_complete {ε : Type} (ts : List (FJ ε)) (rest : FJ ε) (s : List ε)
    (h : Sched (usage ts rest) s) : s.Perm (ts.flatMap FJ.seq ++ rest.seq) :=
  usage_seq ts rest ▸ h.perm

/-! non-vacuity: 19 runs (capacity 8) with small and oversized tasks -/

def sizesEx : List Nat := [24, 40, 300, 24, 24, 200, 100, 24, 24, 24, 24, 24, 24, 24, 24, 24, 24, 24, 24]

example : ((TG.init {}).runs {} sizesEx).tasks.nodes.map List.length = [8, 8, 3] := by decide
example : (((TG.init {}).runs {} sizesEx).blocks.take 7).map (fun b => (b.chunk, b.off)) =
    [(0, 0), (0, 24), (1, 0), (2, 0), (2, 24), (2, 48), (3, 0)] := by decide
example : (((TG.init {}).runs {} sizesEx).wait {}).1 = List.range 19 := by decide

end MythVerif.TaskGroup
