import MythVerif.Proofs.Once
/-!
# C14 — myth_once runs the initialiser exactly once and everyone waits for it

Model `MythVerif.Once`: `myth_once_body` (and `pthread_once`, which forwards to it) on one
once-control, one label per shared access, **any number of callers** (`Tid := Nat`), any
interleaving (`Reachable` / `runs` = any finite label sequence from the zero-initialised
control).  The init routine is an arbitrary finite number of `routineStep` labels of the winner
between which every other caller may do anything: that is a routine that yields, blocks or creates
threads as seen from the once-control.  Theorems are stated both on reachable states (ghost
counters) and on the executed label sequences themselves (no ghosts).
-/
namespace MythVerif.Once
open MythVerif

/-- `init = 0`: a zero-initialised word (`PTHREAD_ONCE_INIT`, static storage) is a fresh
    once-control, which is what the model starts from -/
theorem C14_zero_is_init : Gen.onceInit = 0 ∧ init.state = Gen.onceInit ∧
    Gen.onceInit ≠ Gen.onceInProgress ∧ Gen.onceInit ≠ Gen.onceCompleted ∧
    Gen.onceInProgress ≠ Gen.onceCompleted := by decide

/-- **runs once (states)**: the routine is started at most once; as soon as any call has returned it
    has been started exactly once and has finished; at most one caller is ever inside it, and that
    caller is the recorded runner -/
theorem C14_runs_once (s : St) (h : Reachable step init s) :
    s.execs ≤ 1 ∧ (s.returns > 0 → s.execs = 1 ∧ s.routineDone = true) ∧
    (∀ t1 t2, inRoutine (s.pc t1) = true → inRoutine (s.pc t2) = true → t1 = t2) ∧
    (∀ t, inRoutine (s.pc t) = true → s.runner = some t ∧ s.execs = 1) := by
  have hi := reachable_inv s h
  have h4 : ∀ t, inRoutine (s.pc t) = true → s.runner = some t ∧ s.execs = 1 := fun t ht =>
    have a := (hi.own t).mp ht
    ⟨a.1, hi.started fun e => ne_ip (e.symm.trans a.2)⟩
  refine ⟨hi.ex1, fun hr => ?_, fun t1 t2 h1 h2 => ?_, h4⟩
  · have hd := hi.ret hr
    exact ⟨hi.started fun e => ne_id (e.symm.trans hd), hi.ended hd⟩
  · exact Option.some.inj ((h4 t1 h1).1.symm.trans (h4 t2 h2).1)

/-- **runs once (label sequences)**: in every executable label sequence, whatever the number of
    callers, at most one CAS `init → in_progress` succeeds (= the routine is called at most once),
    and if any call has returned then exactly one did -/
theorem C14_runs_once_trace (ls : List Lbl) (s : St) (h : runs step init ls = some s) :
    ls.countP isWin ≤ 1 ∧ (ls.any isRet = true → ls.countP isWin = 1) :=
  have := wins_of_runs ls s h
  ⟨this.1, fun ha => (this.2 ha).1⟩

/-- the routine is started only by a successful CAS out of `init`, which happens only when it was
    never started before; no other step changes the execution counter -/
theorem C14_only_cas_starts (s s' : St) (l : Lbl) (h : Reachable step init s)
    (hs : step s l = some s') :
    (isWin l = true → s.execs = 0 ∧ s'.execs = 1 ∧ s'.runner = some l.actor ∧ s'.pc l.actor = .run) ∧
    (isWin l = false → s'.execs = s.execs ∧ s'.runner = s.runner) := by
  have hi := reachable_inv s h
  cases l <;> simp only [step] at hs <;> (first | (split at hs) | skip) <;>
    (first | (split at hs) | skip) <;> (try simp at hs) <;> (try subst hs) <;>
    simp_all [isWin, Lbl.actor]
  exact hi.ex0.mp (by simp_all)

/-- **return after completion (states)**: whenever a step makes a caller return from `myth_once`
    — the winner after storing `completed`, or a waiter that read `completed` — the init routine has
    been started exactly once and had already finished before that step -/
theorem C14_return_after_completion (s s' : St) (l : Lbl) (h : Reachable step init s)
    (hs : step s l = some s') (hr : isReturn s s') :
    s.routineDone = true ∧ s.execs = 1 ∧ s'.state = sDone := by
  have hi := reachable_inv s h
  unfold isReturn at hr
  cases l <;> simp only [step] at hs <;> (first | (split at hs) | skip) <;>
    (first | (split at hs) | skip) <;> (try simp at hs) <;> (try subst hs) <;>
    (try (simp at hr; done))
  · -- storeDone by the winner
    rename_i t hpc
    have a := (hi.own t).mp (by simp [hpc, inRoutine])
    exact ⟨(hi.rdn t a.1).mpr (Or.inr hpc), hi.started fun e => ne_ip (e.symm.trans a.2), rfl⟩
  · -- a waiter read `completed`
    rename_i t v hc hv
    have hsd : s.state = sDone := by rw [← hc.1]; exact hv
    exact ⟨hi.ended hsd, hi.started fun e => ne_id (e.symm.trans hsd), hsd⟩

/-- **return after completion (label sequences)**: in every executable label sequence, a label
    that makes a caller return is preceded by the label on which the init routine returned, and by
    exactly one start of the routine -/
theorem C14_return_after_completion_trace (ls : List Lbl) (l : Lbl) (s' : St)
    (h : runs step init (ls ++ [l]) = some s') (hr : isRet l = true) :
    ls.any isEnd = true ∧ ls.countP isWin = 1 := by
  have := (wins_of_runs (ls ++ [l]) s' h).2 (by simp [hr])
  -- a returning label neither starts nor ends the routine
  cases l <;> simp_all [isRet, isEnd, isWin, List.countP_append]

/-- `completed` is final: once stored, no step of anybody changes the word, the execution
    counter or the runner -/
theorem C14_completed_is_stable (s s' : St) (l : Lbl) (h : Reachable step init s)
    (hd : s.state = sDone) (hs : step s l = some s') :
    s'.state = sDone ∧ s'.execs = s.execs ∧ s'.runner = s.runner ∧ s'.routineDone = s.routineDone := by
  have hi := reachable_inv s h
  have hne2 := ne_id
  have hne3 := ne_pd
  have hnr : ∀ t, inRoutine (s.pc t) = false := by
    intro t
    cases hb : inRoutine (s.pc t) with
    | false => rfl
    | true => have := ((hi.own t).mp hb).2; simp_all
  cases l <;> simp only [step] at hs <;> (first | (split at hs) | skip) <;>
    (first | (split at hs) | skip) <;> (try simp at hs) <;> (try subst hs) <;>
    (try (simp_all; done))
  all_goals (rename_i t hpc; have := hnr t; simp [hpc, inRoutine] at this)

/-- **later calls are immediate**: a call that starts when the word is `completed` consists of
    exactly two accesses of the caller — the entry read and the single read of the wait loop, both
    observing `completed` — after which it has returned; it performs no CAS, no routine step and no
    yield, and the execution counter is unchanged.  (`completed` is stable, so this holds whatever
    other callers do in between: `C14_completed_is_stable`.) -/
theorem C14_later_calls_immediate (s s' : St) (l : Lbl) (t : Tid) (_h : Reachable step init s)
    (hd : s.state = sDone) (ha : l.actor = t) (hs : step s l = some s') :
    (s.pc t = .idle → l = .read t sDone ∧ s'.pc t = .wait ∧ s'.execs = s.execs ∧ s'.returns = s.returns) ∧
    (s.pc t = .wait → l = .waitRead t sDone ∧ s'.pc t = .idle ∧ s'.execs = s.execs ∧ isReturn s s') := by
  have hne2 := ne_id
  have hne3 := ne_pd
  subst ha
  unfold isReturn
  cases l <;> simp only [step] at hs <;> (first | (split at hs) | skip) <;>
    (first | (split at hs) | skip) <;> (try simp at hs) <;> (try subst hs) <;>
    simp_all [Lbl.actor]

/-- **the routine may block (1): nobody is ever disabled.**  In every reachable state every thread
    has an enabled step: the winner can always continue or finish the routine and store
    `completed`; a waiting caller can always re-read or yield; an idle thread can always start a
    call.  In particular no reachable state is stuck while the winner can still step. -/
theorem C14_never_disabled (s : St) (t : Tid) : ∃ l, l.actor = t ∧ (step s l).isSome = true := by
  cases hpc : s.pc t with
  | idle => exact ⟨.read t s.state, rfl, by simp only [step]; split <;> (try split) <;> simp_all⟩
  | rd => exact ⟨.cas t (decide (s.state = sInit)), rfl, by simp only [step]; split <;> (try split) <;> simp_all⟩
  | run => exact ⟨.routineStep t, rfl, by simp [step, hpc]⟩
  | fin => exact ⟨.storeDone t, rfl, by simp [step, hpc]⟩
  | wait => exact ⟨.waitRead t s.state, rfl, by simp only [step]; split <;> (try split) <;> simp_all⟩
  | yld => exact ⟨.yield t, rfl, by simp [step, hpc]⟩

/-- **the routine may block (2): the other callers neither return nor interfere while it runs.**
    While the routine is in progress (word = `in_progress`), a step of any caller other than the
    runner does not return from `myth_once`, leaves the word, the counter, the runner and the
    `routineDone` flag unchanged and touches nobody else's program counter (waiting callers hold
    nothing the routine could need: they only re-read and yield); and it ends in `rd`, `wait` or
    `yld` — the caller is still inside its call -/
theorem C14_routine_may_block (s s' : St) (l : Lbl) (w : Tid) (h : Reachable step init s)
    (hp : s.state = sProg) (hw : s.runner = some w) (hl : l.actor ≠ w) (hs : step s l = some s') :
    ¬ isReturn s s' ∧ s'.state = s.state ∧ s'.execs = s.execs ∧ s'.runner = s.runner ∧
    s'.routineDone = s.routineDone ∧ (∀ u, u ≠ l.actor → s'.pc u = s.pc u) ∧
    (s'.pc l.actor = .rd ∨ s'.pc l.actor = .wait ∨ s'.pc l.actor = .yld) := by
  have hi := reachable_inv s h
  have hne1 := ne_ip
  have hne3 := ne_pd
  have hnr : ∀ t, t ≠ w → inRoutine (s.pc t) = false := by
    intro t htw
    cases hb : inRoutine (s.pc t) with
    | false => rfl
    | true => have := ((hi.own t).mp hb).1; simp_all
  unfold isReturn
  cases l <;> simp only [step] at hs <;> (first | (split at hs) | skip) <;>
    (first | (split at hs) | skip) <;> (try simp at hs) <;> (try subst hs) <;>
    simp only [Lbl.actor] at hl <;>
    (try (simp_all [Lbl.actor]; done))
  all_goals (rename_i t hpc; have := hnr t hl; simp [hpc, inRoutine] at this)

/-- **the routine may block (3): no orphaned waiter (stuck-freedom).**  Whenever a caller is in the
    wait loop, either `completed` is already stored — then its next own steps are
    (`yield`,) `waitRead completed` and it returns — or the runner is still inside the routine /
    about to store `completed`, and the runner's next step is enabled (`C14_never_disabled`).
    Hence a reachable state in which a caller waits and nobody can ever complete does not exist:
    if no caller is inside the routine, every waiting caller sees `completed`. -/
theorem C14_waiters_have_hope (s : St) (h : Reachable step init s) (t : Tid)
    (hw : waiting (s.pc t) = true) :
    (s.state = sDone ∧ s.routineDone = true) ∨ (∃ w, s.runner = some w ∧ inRoutine (s.pc w) = true ∧ w ≠ t) := by
  have hi := reachable_inv s h
  rcases hi.hope (hi.wt t hw) with hd | ⟨_, w, hr, hin⟩
  · exact .inl hd
  · refine .inr ⟨w, hr, hin, ?_⟩
    intro e; subst e
    cases hp : s.pc w <;> simp_all [waiting, inRoutine]

/-- once `completed` is stored a waiting caller leaves within its next two own steps -/
theorem C14_waiters_released (s : St) (t : Tid) (hd : s.state = sDone) :
    (s.pc t = .wait → ∃ s', step s (.waitRead t sDone) = some s' ∧ s'.pc t = .idle ∧ isReturn s s') ∧
    (s.pc t = .yld → ∃ s', step s (.yield t) = some s' ∧ s'.pc t = .wait ∧ s'.state = sDone) := by
  constructor
  · intro hpc
    exact ⟨{ s with pc := upd s.pc t .idle, returns := s.returns + 1 }, by simp [step, hd, hpc],
      by simp, by simp [isReturn]⟩
  · intro hpc
    exact ⟨{ s with pc := upd s.pc t .wait }, by simp [step, hpc], by simp, by simpa using hd⟩


/-- three callers race: 1 and 2 both read `init`, 1 wins, 2 loses the CAS, 3 arrives while the
    routine (3 steps, the others interleaved) is in progress; both wait, re-read and yield -/
def demoTrace : List Lbl :=
  [.read 1 0, .read 2 0, .cas 1 true, .cas 2 false, .routineStep 1, .read 3 1, .waitRead 2 1,
   .routineStep 1, .yield 2, .waitRead 3 1, .waitRead 2 1, .routineStep 1]

example : ∃ s, runs step init demoTrace = some s ∧ s.state = sProg ∧ s.execs = 1 ∧ s.runner = some 1 ∧
    s.pc 1 = .run ∧ s.pc 2 = .yld ∧ s.pc 3 = .yld ∧ s.returns = 0 := by
  refine ⟨_, rfl, ?_⟩; decide

/-- … the routine ends, `completed` is stored, everybody returns, a later call by 4 is immediate -/
def demoTrace2 : List Lbl :=
  demoTrace ++ [.routineEnd 1, .yield 3, .storeDone 1, .waitRead 3 2, .yield 2, .waitRead 2 2,
                .read 4 2, .waitRead 4 2]

example : ∃ s, runs step init demoTrace2 = some s ∧ s.state = sDone ∧ s.execs = 1 ∧ s.routineDone = true ∧
    s.returns = 4 ∧ (∀ t, t < 6 → s.pc t = .idle) := by
  refine ⟨_, rfl, ?_⟩; decide

example : demoTrace2.countP isWin = 1 ∧ demoTrace2.any isRet = true ∧ demoTrace2.any isEnd = true := by decide

/-- the model refuses a second start: after a winner exists no CAS can succeed -/
example : ∀ s, runs step init demoTrace = some s → step s (.cas 2 true) = none ∧ step s (.cas 3 true) = none := by
  intro s h
  have : runs step init demoTrace = some _ := rfl
  rw [this] at h
  cases h
  decide

end MythVerif.Once
