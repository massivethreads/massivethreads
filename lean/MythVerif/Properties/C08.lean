import MythVerif.Proofs.Uncond
/-!
# C08 — uncondition variable: signal always hands over the one waiter, early or late

Model `MythVerif.Uncond`: `myth_uncond_wait` / `myth_uncond_signal` of `myth_sync_func.h` on one
variable, one label per shared access, **any number of threads** (`Tid := Nat`; waiter and signaler
identities are arbitrary and may change from rendezvous to rendezvous), **any number of
rendezvous**, any interleaving.  The documented protocol is the explicit hypothesis
`WellUsed ls` (the monitor `proto` accepts the label sequence): an announcement only when no
rendezvous is in flight, a claim (followed by the signal) only after an announcement and by one
thread only.  "`ls` executable and well used" is `runs step init ls = some s ∧ runs proto .free ls =
some p`, equivalently `Reachable pstep pinit (s, p)` (`runs_pstep`).
-/
namespace MythVerif.Uncond
open MythVerif

/-- **exactly one resume (label sequences)**: along every executable, well-used label sequence
    (hence along every prefix of it)
    * the threads pushed to the run queue are, in order, a prefix of the threads that announced — every
      signal hands over exactly the waiter of its rendezvous, rendezvous by rendezvous; at most one
      announcement is unanswered; never more pushes than claims, nor more claims than announcements;
    * for every thread `t`: #resumes of `t` ≤ #pushes of `t` ≤ #announcements of `t` ≤ #resumes of `t` + 1 —
      `t` is resumed at most once per push and pushed at most once per announcement (and it can
      announce again only after it was resumed) -/
theorem C08_exactly_one_resume (ls : List Lbl) (s : St) (p : Phase)
    (h : runs step init ls = some s) (hw : runs proto .free ls = some p) :
    pushed ls <+: anns ls ∧ (anns ls).length ≤ (pushed ls).length + 1 ∧
    (pushed ls).length ≤ (claims ls).length ∧ (claims ls).length ≤ (anns ls).length ∧
    (∀ t, ls.countP (isResumeOf t) ≤ ls.countP (isPushOf t) ∧ ls.countP (isPushOf t) ≤ ls.countP (isAnnOf t) ∧
          ls.countP (isAnnOf t) ≤ ls.countP (isResumeOf t) + 1) := by
  have ht := tr_of_runs ls s p h hw
  have hper : ∀ t, ls.countP (isResumeOf t) ≤ ls.countP (isPushOf t) ∧ ls.countP (isPushOf t) ≤ ls.countP (isAnnOf t) ∧
          ls.countP (isAnnOf t) ≤ ls.countP (isResumeOf t) + 1 := by
    intro t
    obtain ⟨-, -, a, b⟩ := acct ls s h t
    cases hpc : s.pc t <;> simp [hpc, blocking] at a b <;> omega
  cases p
  case free | announced =>
    obtain ⟨a, c⟩ := ht
    rw [a, c]; simp [hper]
  case claimed w q =>
    obtain ⟨c, d, e⟩ := ht
    by_cases hq : s.pc q = .sd
    · rw [c, d hq]; simp [hper]
    · rw [c, e hq]; simp [hper]

/-- **exactly one resume (states)**: a resume of `t` is possible only while `t` sits in the run
    queue with its context saved; it takes `t` out of the run queue and back to running, and in
    the resulting state a second resume of `t` is not enabled -/
theorem C08_resume_consumes_the_signal (s s' : St) (p : Phase) (t : Tid)
    (h : Reachable pstep pinit (s, p)) (hs : step s (.resume t) = some s') :
    s.pc t = .runnable ∧ t ∈ s.runq ∧ s.ctxSaved t = true ∧ s.th ≠ some t ∧
    t ∉ s'.runq ∧ s'.pc t = .idle ∧ s'.ctxSaved t = false ∧ s'.th = s.th ∧ step s' (.resume t) = none := by
  have hi := reachable_inv s p h
  simp only [step] at hs
  split at hs
  · rename_i hc
    simp at hs; subst hs
    refine ⟨hc.1, hc.2, (hi.sv t).mpr (Or.inr (Or.inr hc.1)), ?_, ?_, ?_, ?_, rfl, ?_⟩
    · intro e; have := hi.thA t e; simp_all
    · simp only; intro hm; exact ((List.Nodup.mem_erase_iff hi.rqN).mp hm).1 rfl
    · simp
    · simp
    · simp [step]
  · simp at hs

/-- **signal returns after the hand-off (label sequences; holds with or without the protocol)**:
    for every thread `q` and every executable label sequence, `q` has returned from
    `myth_uncond_signal` at most as often as it has pushed a thread to the run queue, and pushed at
    most as often as it entered signal — so (every prefix being executable too) its k-th return
    comes after its k-th push -/
theorem C08_signal_returns_after_handoff (ls : List Lbl) (s : St) (h : runs step init ls = some s)
    (q : Tid) :
    ls.countP (isRetBy q) ≤ ls.countP (isPushBy q) ∧ ls.countP (isPushBy q) ≤ ls.countP (isClaimBy q) ∧
    (s.pc q = .sd → ls.countP (isRetBy q) + 1 = ls.countP (isPushBy q)) := by
  obtain ⟨a, b, -, -⟩ := acct ls s h q
  refine ⟨by omega, by omega, ?_⟩
  intro hq; simp [hq] at a; omega

/-- **signal returns after the hand-off (states)**: `myth_uncond_signal` can return only from the
    program point after the push, and at that moment the waiter it served is in the run queue with
    its context saved and `u->th` cleared — or has already been resumed from there -/
theorem C08_signal_return_state (s s' : St) (p : Phase) (q : Tid) (h : Reachable pstep pinit (s, p))
    (hs : step s (.sigRet q) = some s') :
    s.pc q = .sd ∧ (∀ w, p = .claimed w q → s.pc w = .runnable ∧ w ∈ s.runq ∧ s.ctxSaved w = true ∧ s.th = none) := by
  have hi := reachable_inv s p h
  simp only [step] at hs
  split at hs
  · rename_i hc
    refine ⟨hc, ?_⟩
    intro w hp
    have := hi.clD w q hp hc
    exact ⟨this.1, (hi.rqR w).mpr this.1, (hi.sv w).mpr (Or.inr (Or.inr this.1)), this.2⟩
  · simp at hs

/-- **no resume without a signal (states)**: a thread becomes runnable again only by a signaler's
    push, a push of `x` is possible only for the signaler `q` that claimed the announcement of this very
    `x` and after it cleared `u->th`; while the announcement of `w` is unclaimed, or its signaler has
    not pushed yet, `w` cannot resume -/
theorem C08_no_resume_without_signal (s : St) (p : Phase) (h : Reachable pstep pinit (s, p)) :
    (∀ l s' t, step s l = some s' → s'.pc t = .runnable → s.pc t = .runnable ∨ ∃ q, l = .sigPush q t) ∧
    (∀ q x s', step s (.sigPush q x) = some s' → p = .claimed x q ∧ s.th = none ∧ s.pc x = .asleep) ∧
    (∀ w, p = .announced w → step s (.resume w) = none) ∧
    (∀ w q, p = .claimed w q → s.pc q ≠ .sd → step s (.resume w) = none) := by
  have hi := reachable_inv s p h
  obtain ⟨hg, hr⟩ := (inv_iff s p).mp hi
  refine ⟨?_, ?_, ?_, ?_⟩
  · intro l s' t hs ht
    cases l with
    | sigPush q x =>
      by_cases e : t = x
      · exact .inr ⟨q, by rw [e]⟩
      · simp only [step] at hs; split at hs <;> simp at hs; subst hs; grind [upd_apply]
    | _ => simp only [step] at hs; split at hs <;> simp at hs <;> subst hs <;> grind [upd_apply]
  · intro q x s' hs
    simp only [step] at hs
    split at hs
    · rename_i hc
      have := signaler hg hr (.inr hc.1)
      exact ⟨this.1, this.2.2 hc.1, hc.2.1⟩
    · simp at hs
  · intro w hp
    rcases hi.anW w hp with e | e | e | e <;> simp [step, e]
  · intro w q hp hq
    subst hp
    have : s.pc w ≠ .runnable := by
      have := hg.thA
      simp only [Rdv, Waiting] at hr
      grind [blocking]
    simp [step, this]

/-- **no resume without a signal (label sequences)**: whenever `resume t` is executed at the end
    of an executable label sequence, a push of `t` that no earlier resume of `t` has consumed
    precedes it (and every push is preceded by its own claim: `C08_exactly_one_resume`) -/
theorem C08_resume_needs_push (ls : List Lbl) (t : Tid) (s' : St)
    (h : runs step init (ls ++ [.resume t]) = some s') :
    ls.countP (isPushOf t) = ls.countP (isResumeOf t) + 1 := by
  rw [runs_append] at h
  cases hm : runs step init ls with
  | none => simp [hm] at h
  | some s =>
    simp only [hm, Option.bind, runs] at h
    split at h
    · rename_i s1 hs
      have a := (acct ls s hm t).res
      simp only [step] at hs
      split at hs
      · rename_i hc; simp [hc.1] at a; omega
      · simp at hs
    · simp at h

/-- **publish after save**: `u->th = me` is stored only by the callback, i.e. after the waiter's
    context was saved; consequently whatever a signaler can read from `u->th`, carries between its
    read and its push, or has put into the run queue is a thread whose context is saved and which is
    asleep / runnable (never one still running on a worker); a thread that has announced but whose
    context is not saved yet is invisible to every signaler -/
theorem C08_publish_after_save (s : St) (p : Phase) (h : Reachable pstep pinit (s, p)) :
    (∀ t s', step s (.cbPublish t) = some s' → s.ctxSaved t = true) ∧
    (∀ x, s.th = some x → s.ctxSaved x = true ∧ s.pc x = .asleep) ∧
    (∀ t x, (s.pc t = .sc x ∨ s.pc t = .sp x) → s.ctxSaved x = true ∧ s.pc x = .asleep) ∧
    (∀ x, x ∈ s.runq → s.ctxSaved x = true ∧ s.pc x = .runnable) ∧
    (∀ t, (s.pc t = .ann ∨ s.pc t = .sw) → s.ctxSaved t = false ∧ s.th ≠ some t ∧ t ∉ s.runq) := by
  have hi := reachable_inv s p h
  refine ⟨?_, ?_, ?_, ?_, ?_⟩
  · intro t s' hs
    simp only [step] at hs
    split at hs
    · rename_i hc; exact (hi.sv t).mpr (Or.inl hc)
    · simp at hs
  · intro x hx
    have := hi.thA x hx
    exact ⟨(hi.sv x).mpr (Or.inr (Or.inl this)), this⟩
  · intro t x hx
    have hx' := (signaler ((inv_iff s p).mp hi).1 ((inv_iff s p).mp hi).2 hx).2.1
    exact ⟨(hi.sv x).mpr (Or.inr (Or.inl hx')), hx'⟩
  · intro x hx
    have := (hi.rqR x).mp hx
    exact ⟨(hi.sv x).mpr (Or.inr (Or.inr this)), this⟩
  · intro t ht
    refine ⟨?_, ?_, ?_⟩
    · cases hc : s.ctxSaved t with
      | false => rfl
      | true => have := (hi.sv t).mp hc; rcases ht with e | e <;> simp_all
    · intro e; have := hi.thA t e; rcases ht with e | e <;> simp_all
    · intro e; have := (hi.rqR t).mp e; rcases ht with e | e <;> simp_all

/-- **repeated rendezvous**: whenever a rendezvous is over as far as its users can tell (the waiter
    returned from wait or the signaler returned from signal: the monitor is back in `free`) the
    variable is as initialised — `u->th` empty, nobody announced, switching or asleep on it, no signal
    in flight before its push; what may remain are signalers about to return and earlier waiters
    already handed to the run queue (context saved, resumable at any time, never pushed again) — so
    the next rendezvous, with any waiter and any signaler, starts from the same invariant.  Both
    user-visible returns end the rendezvous. -/
theorem C08_repeated_rendezvous (s : St) (p : Phase) (h : Reachable pstep pinit (s, p)) :
    (p = .free → s.th = none ∧ s.runq.Nodup ∧
      ∀ t, quiet (s.pc t) = true ∧ blocking (s.pc t) = false ∧ inSignal (s.pc t) = false ∧
           (t ∈ s.runq ↔ s.pc t = .runnable) ∧ (s.ctxSaved t = true ↔ s.pc t = .runnable)) ∧
    (∀ w q s' p', p = .claimed w q → pstep (s, p) (.resume w) = some (s', p') → p' = .free) ∧
    (∀ w q s' p', p = .claimed w q → pstep (s, p) (.sigRet q) = some (s', p') → p' = .free) := by
  have hi := reachable_inv s p h
  refine ⟨?_, ?_, ?_⟩
  · intro hp
    refine ⟨hi.frT hp, hi.rqN, ?_⟩
    intro t
    have hq := hi.frQ t hp
    have hsv := hi.sv t
    have hrq := hi.rqR t
    rcases hq with e | e | e <;> simp_all [quiet, blocking, inSignal]
  all_goals
    intro w q s' p' hp hs
    subst hp
    simpa [proto, eq_comm] using ((pstep_iff s s' _ p' _).mp hs).2

/-- **stuck-freedom / the signal always hands over, early or late**: in every executable, well-used
    state in which a signal has been issued for waiter `w` by `q` and neither has `w` returned from
    wait nor `q` from signal, a non-spinning step of `w` or `q` is enabled (in particular the model's
    `sigPush` precondition is never what blocks), and it either ends the rendezvous or strictly
    decreases `rank ≤ 7`:
    *early* signal (`w` still at `ann`/`sw`/`cb`, `q` spinning) — the waiter's own step is enabled;
    *late* signal (`w` asleep) — the signaler's read / clear / push is enabled; after the push —
    `resume w` is enabled. -/
theorem C08_progress (s : St) (w q : Tid) (h : Reachable pstep pinit (s, .claimed w q)) :
    ∃ l s' p', l.isSpin = false ∧ (l.actor = w ∨ l.actor = q) ∧
      pstep (s, .claimed w q) l = some (s', p') ∧
      (p' = .free ∨ (p' = .claimed w q ∧ rank s' w q < rank s w q)) ∧ rank s w q ≤ 7 := by
  have hi := reachable_inv s _ h
  have hne := hi.clN w q rfl
  have hwq : w ≠ q := fun e => hne e.symm
  -- a non-spinning step of `w` or `q` that is enabled, keeps the phase and lowers the rank
  have via : ∀ l s', l.isSpin = false → (l.actor = w ∨ l.actor = q) → step s l = some s' →
      proto (.claimed w q) l = some (.claimed w q) → rank s' w q < rank s w q →
      ∃ l s' p', l.isSpin = false ∧ (l.actor = w ∨ l.actor = q) ∧
      pstep (s, .claimed w q) l = some (s', p') ∧
      (p' = .free ∨ (p' = .claimed w q ∧ rank s' w q < rank s w q)) ∧ rank s w q ≤ 7 :=
    fun l s' a b c d e => ⟨l, s', _, a, b, (pstep_iff ..).mpr ⟨c, d⟩, .inr ⟨rfl, e⟩, rank_le s w q⟩
  rcases hi.clS w q rfl with g | g | g | g
  · obtain ⟨hw4, hth⟩ := hi.clG w q rfl g
    rcases hw4 with e | e | e | e
    · exact via (.blockBegin w) _ rfl (.inl rfl) (if_pos e) rfl (by simp [rank, e, wrank, hne])
    · exact via (.cbBegin w) _ rfl (.inl rfl) (if_pos e) rfl (by simp [rank, e, wrank, hne])
    · exact via (.cbPublish w) _ rfl (.inl rfl) (if_pos e) rfl (by simp [rank, e, wrank, hne])
    · exact via (.sigRead q w) _ rfl (.inr rfl) (if_pos ⟨g, hth e⟩) rfl (by simp [rank, g, qrank, hwq])
  · exact via (.sigClear q) _ rfl (.inr rfl) (by rw [step, g]) rfl (by simp [rank, g, qrank, hwq])
  · have e := (hi.clP w q rfl g).1
    exact via (.sigPush q w) _ rfl (.inr rfl) (if_pos ⟨g, e, (hi.sv w).mpr (.inr (.inl e))⟩) rfl
      (by simp [rank, g, e, qrank, wrank, hwq])
  · -- pushed: the waiter resumes, which ends the rendezvous
    have e := (hi.clD w q rfl g).1
    exact ⟨.resume w, _, .free, rfl, .inl rfl,
      (pstep_iff ..).mpr ⟨if_pos ⟨e, (hi.rqR w).mpr e⟩, by simp [proto]⟩, .inl rfl, rank_le s w q⟩

/-- a pushed waiter can always be resumed, whatever else is going on on the variable (also after
    its signaler has returned and further rendezvous have started) -/
theorem C08_pushed_can_resume (s : St) (p : Phase) (t : Tid) (h : Reachable pstep pinit (s, p))
    (ht : s.pc t = .runnable) : ∃ s' p', pstep (s, p) (.resume t) = some (s', p') := by
  have hi := reachable_inv s p h
  have hrq := (hi.rqR t).mpr ht
  cases hp : proto p (.resume t) with
  | none => cases p <;> simp [proto] at hp <;> (split at hp <;> simp at hp)
  | some p' =>
    exact ⟨{ s with runq := s.runq.erase t, pc := upd s.pc t .idle, ctxSaved := upd s.ctxSaved t false }, p',
      by simp [pstep, step, ht, hrq, hp]⟩

/-- the rank never increases while the rendezvous is in flight: whatever any thread does (spinning
    included), the phase stays `claimed w q` with `rank` not larger, or the rendezvous ends -/
theorem C08_rank_never_increases (s s' : St) (p' : Phase) (w q : Tid) (l : Lbl)
    (h : Reachable pstep pinit (s, .claimed w q)) (hs : pstep (s, .claimed w q) l = some (s', p')) :
    p' = .free ∨ (p' = .claimed w q ∧ rank s' w q ≤ rank s w q) := by
  obtain ⟨-, hr⟩ := (inv_iff s _).mp (reachable_inv s _ h)
  obtain ⟨hs, hp⟩ := (pstep_iff s s' _ p' l).mp hs
  simp only [Rdv, Waiting] at hr
  cases l <;> simp only [step] at hs <;> split at hs <;> simp at hs <;> subst hs <;>
    simp only [proto] at hp <;> grind [rank, wrank, qrank, blocking, quiet, upd_apply]

/-- the protocol is needed: without it the library executes label sequences in which a second
    waiter overwrites `u->th` and the first one is lost (asleep, referenced by nobody) -/
theorem C08_protocol_is_needed : ∃ ls s, runs step init ls = some s ∧ ¬ WellUsed ls ∧
    s.pc 1 = .asleep ∧ s.th = some 2 ∧ s.runq = [] := by
  refine ⟨[.announce 1, .announce 2, .blockBegin 1, .cbBegin 1, .cbPublish 1, .blockBegin 2, .cbBegin 2, .cbPublish 2],
    _, rfl, ?_, ?_⟩
  · rintro ⟨p, hp⟩; simp [runs, proto] at hp
  · decide

/-! ### non-vacuity: `WellUsed` is satisfiable, with late and early signals and changing roles -/

/-- late signal: the waiter is fully asleep before the signaler arrives -/
def lateTrace : List Lbl :=
  [.announce 1, .blockBegin 1, .cbBegin 1, .cbPublish 1, .claim 2, .sigRead 2 1, .sigClear 2,
   .sigPush 2 1, .resume 1, .sigRet 2]

/-- early signal: the signaler claims and spins while the waiter is still switching; then a second
    rendezvous on the same variable with the roles swapped (2 waits, 1 signals) -/
def earlyTrace : List Lbl :=
  [.announce 1, .blockBegin 1, .claim 2, .sigSpin 2, .sigSpin 2, .cbBegin 1, .sigSpin 2, .cbPublish 1,
   .sigRead 2 1, .sigClear 2, .sigPush 2 1, .sigRet 2, .resume 1,
   .announce 2, .claim 1, .sigSpin 1, .blockBegin 2, .cbBegin 2, .cbPublish 2, .sigRead 1 2, .sigClear 1,
   .sigPush 1 2, .resume 2]

example : ∃ s, runs step init lateTrace = some s ∧ runs proto .free lateTrace = some .free ∧
    s.th = none ∧ s.runq = [] ∧ s.pc 1 = .idle ∧ s.pc 2 = .idle := by
  refine ⟨_, rfl, rfl, ?_⟩; decide

example : WellUsed lateTrace ∧ WellUsed earlyTrace := ⟨⟨_, rfl⟩, ⟨_, rfl⟩⟩

example : ∃ s, runs step init earlyTrace = some s ∧ runs proto .free earlyTrace = some .free ∧
    s.th = none ∧ s.runq = [] ∧ s.pc 1 = .sd ∧ s.pc 2 = .idle ∧
    anns earlyTrace = [1, 2] ∧ pushed earlyTrace = [1, 2] ∧ resumed earlyTrace = [1, 2] ∧ claims earlyTrace = [2, 1] := by
  refine ⟨_, rfl, rfl, ?_⟩; decide

/-- mid-rendezvous state with an early signal in flight: hypotheses of `C08_progress` are met -/
example : ∃ s, runs pstep pinit (earlyTrace.take 5) = some (s, .claimed 1 2) ∧ s.pc 1 = .sw ∧ s.pc 2 = .sg ∧
    s.th = none ∧ rank s 1 2 = 6 := by
  refine ⟨_, rfl, ?_⟩; decide

/-- the model refuses a push of a thread that has not published itself, and a resume before the push -/
example : ∃ s, runs step init (earlyTrace.take 5) = some s ∧ step s (.sigRead 2 1) = none ∧
    step s (.resume 1) = none := by
  refine ⟨_, rfl, ?_⟩; decide

end MythVerif.Uncond
