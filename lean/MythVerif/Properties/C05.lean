import MythVerif.Proofs.Cond
/-!
# C05 — condition variables: atomic release-and-wait, signal and broadcast reach waiters

Model `MythVerif.Cond` (condition queue at shared-access granularity over the abstract mutex
that C04 establishes), any number of waiters / signalers / broadcasters, any interleaving.
`myth_cond_timedwait` is `unimplemented()` in the code and outside the property.
-/
namespace MythVerif.Cond
open MythVerif

theorem inv_step (s s' : St) (l : Lbl) (h : Inv s) (hs : step s l = some s') : Inv s' := by
  cases l with
  | release t | cbRelease t =>
    simp only [step] at hs; (repeat' split at hs) <;> cases hs
    -- a clause not named carries over as it is: the step writes nothing it reads; each named clause gets, by the
    -- `have`s before `grind`, the old clauses it follows from
    all_goals exact { h with
      hold := by have := h.hold; have := h.cbP t; grind [upd_apply]
      cbP := by have := h.cbP; grind [upd_apply] }
  | acquire t | waitStart t | blockBegin t | cbEnq t | sigStart t | sigDeq t x | bcStart t | bcDeq t x
  | push t x =>
    simp only [step] at hs; (repeat' split at hs) <;> cases hs
    all_goals exact { h with
      cqA := by have := h.cqA; have := h.car t; have := h.dis; grind [upd_apply]
      cqN := by have := h.cqN; have := h.cqA t; grind [List.nodup_cons, List.nodup_append]
      dqA := by have := h.dqA; have := h.cqA; have := h.dqN; grind [upd_apply, List.Nodup.mem_erase_iff]
      dqN := by have := h.dqN; have := h.dis; grind [List.Nodup.erase, List.nodup_cons]
      dis := by have := h.dis; have := h.cqN; have := h.dqA t; grind [List.nodup_cons, List.mem_of_mem_erase]
      rel := by have := h.rel; have := h.dqN; grind [upd_apply, List.Nodup.mem_erase_iff]
      hold := by have := h.hold; have := h.cbP t; grind [upd_apply]
      cbP := by have := h.cbP; have := h.hold t; grind [upd_apply]
      car := by have := h.car; have := h.carU; have := h.dqN; grind [upd_apply, List.Nodup.mem_erase_iff]
      carU := by have := h.carU; have := h.car; have := h.dis; grind [upd_apply]
      dqC := by have := h.dqC; have := h.dqN; have := h.car t; have := h.dqA; simp only [upd_apply]; grind [List.Nodup.mem_erase_iff]
      bc := by have := h.bc; have := h.mono; simp only [upd_apply]; grind
      mono := by have := h.mono; simp only [upd_apply]; grind }

theorem reachable_inv (s : St) (h : Reachable step init s) : Inv s :=
  inv_reachable step init Inv inv_init (fun s l s' => inv_step s s' l) s h

/-- **atomic release-and-wait**: a thread inside `wait` that has not been dequeued yet either
    still holds the mutex or is already on the condition queue — there is no instant at which
    it has released the mutex without being visible to signalers -/
theorem C05_atomic_release_wait (s : St) (h : Reachable step init s) (w : Tid)
    (hw : inWait (s.pc w) = true) : s.holder = some w ∨ w ∈ s.cq ∨ w ∈ s.deqd := by
  have hi := reachable_inv s h
  cases hp : s.pc w <;> simp [hp, inWait] at hw
  · exact Or.inl (hi.hold w (Or.inl hp))
  · exact Or.inl (hi.hold w (Or.inr (Or.inl hp)))
  · exact Or.inr (hi.rel w hp)

/-- hence a signal (or broadcast) by a thread that holds the mutex is never missed: if it finds
    the queue empty, every thread inside `wait` has already been dequeued by an earlier signal -/
theorem C05_signal_under_mutex_not_missed (s s' : St) (h : Reachable step init s) (t : Tid)
    (hs : step s (.sigDeq t none) = some s' ∨ step s (.bcDeq t none) = some s')
    (hm : s.holder = some t) (w : Tid) (hw : inWait (s.pc w) = true) : w ∈ s.deqd := by
  have hemp : s.cq = [] ∧ (s.pc t = .sg ∨ s.pc t = .bc) := by
    rcases hs with hs | hs <;> simp only [step] at hs <;> split at hs
    · rename_i hp; split at hs <;> simp_all
    · simp at hs
    · rename_i hp; split at hs <;> simp_all
    · simp at hs
  rcases C05_atomic_release_wait s h w hw with h1 | h1 | h1
  · rw [hm] at h1
    have : w = t := (Option.some.inj h1).symm
    subst this
    rcases hemp.2 with e | e <;> simp [e, inWait] at hw
  · simp [hemp.1] at h1
  · exact h1

/-- **signal**: with a non-empty queue it dequeues exactly the head (one blocked thread is
    resumed); with an empty queue it has no effect at all -/
theorem C05_signal_wakes_one (s s' : St) (t : Tid) (x : Option Tid)
    (hs : step s (.sigDeq t x) = some s') :
    (s.cq = [] ∧ x = none ∧ s'.cq = [] ∧ s'.deqd = s.deqd ∧ s'.holder = s.holder ∧
        (∀ u, u ≠ t → s'.pc u = s.pc u) ∧ s'.pc t = .idle) ∨
    (∃ y rest, s.cq = y :: rest ∧ x = some y ∧ s'.cq = rest ∧ s'.pc t = .sgP y ∧ y ∈ s'.deqd) := by
  simp only [step] at hs
  split at hs
  · split at hs
    · simp at hs; subst hs
      exact Or.inl ⟨by assumption, rfl, by assumption, rfl, rfl, fun u hu => by simp [hu], by simp⟩
    · split at hs
      · rename_i y rest x' _ _ hxy
        simp at hs; subst hs; subst hxy
        exact Or.inr ⟨_, _, by assumption, rfl, rfl, by simp, by simp⟩
      · simp at hs
    · simp at hs
  · simp at hs

/-- **broadcast resumes all**: when a broadcast returns, every thread that was on the queue when
    it started has been dequeued (at least once) since then -/
theorem C05_broadcast_wakes_all (s s' : St) (h : Reachable step init s) (b : Tid)
    (hs : step s (.bcDeq b none) = some s') (x : Tid) (hx : x ∈ s.bsnap b) :
    s.wakes x > s.bcnt b x := by
  have hi := reachable_inv s h
  simp only [step] at hs
  split at hs
  · rename_i hp
    have hemp : s.cq = [] := by split at hs <;> simp_all
    rcases hi.bc b x (Or.inl hp) hx with h1 | h1
    · exact h1
    · simp [hemp] at h1
  · simp at hs

/-- a dequeued thread is carried by exactly one signaler/broadcaster, and that one's next step
    pushes it: it is handed to the scheduler exactly once per dequeue -/
theorem C05_no_spurious_loss (s : St) (h : Reachable step init s) (x : Tid) (hx : x ∈ s.deqd) :
    s.pc x = .wQ ∧ x ∉ s.cq ∧
    (∃ u, (s.pc u = .sgP x ∨ s.pc u = .bcP x) ∧ (step s (.push u x)).isSome ∧
      ∀ u', (s.pc u' = .sgP x ∨ s.pc u' = .bcP x) → u' = u) := by
  have hi := reachable_inv s h
  obtain ⟨u, hu⟩ := hi.dqC x hx
  refine ⟨hi.dqA x hx, fun hc => hi.dis x hc hx, u, hu, ?_, fun u' hu' => hi.carU u' u x hu' hu⟩
  rcases hu with e | e <;> simp [step, e]

theorem C05_push_once (s s' : St) (h : Reachable step init s) (t x : Tid)
    (hs : step s (.push t x) = some s') :
    x ∈ s.deqd ∧ x ∉ s'.deqd ∧ x ∉ s'.cq ∧ s'.pc x = .wWoken := by
  have hi := reachable_inv s h
  have hcar : s.pc t = .sgP x ∨ s.pc t = .bcP x := by
    simp only [step] at hs
    split at hs
    · left; assumption
    · split at hs
      · right; assumption
      · simp at hs
  have hxd := hi.car t x hcar
  have hxq := hi.dqA x hxd
  have hxt : x ≠ t := by intro e; subst e; rcases hcar with e | e <;> simp [e] at hxq
  have hnq : x ∉ s.cq := fun hc => hi.dis x hc hxd
  simp only [step] at hs
  split at hs
  · simp at hs; subst hs
    exact ⟨hxd, fun hm => ((List.Nodup.mem_erase_iff hi.dqN).mp hm).1 rfl, hnq, by simp [hxt]⟩
  · split at hs
    · simp at hs; subst hs
      exact ⟨hxd, fun hm => ((List.Nodup.mem_erase_iff hi.dqN).mp hm).1 rfl, hnq, by simp [hxt]⟩
    · simp at hs

/-- a waiter does not resume without a signal: while it is asleep (`wQ`) only a `push` by a
    signaler that dequeued it changes its program counter, and it performs no step itself -/
theorem C05_no_resume_without_signal (s s' : St) (l : Lbl) (w : Tid) (hw : s.pc w = .wQ)
    (hs : step s l = some s') : s'.pc w = .wQ ∨ (∃ u, l = .push u w ∧ s'.pc w = .wWoken) := by
  cases l <;> simp only [step] at hs
  case push u x =>
    by_cases hx : x = w
    · subst hx
      right
      refine ⟨u, rfl, ?_⟩
      split at hs
      · rename_i hp; simp at hs; subst hs
        have : x ≠ u := by intro e; subst e; simp [hw] at hp
        simp [this]
      · split at hs
        · rename_i hp; simp at hs; subst hs
          have : x ≠ u := by intro e; subst e; simp [hw] at hp
          simp [this]
        · simp at hs
    · left
      split at hs
      · rename_i hp; simp at hs; subst hs
        have : w ≠ u := by intro e; subst e; simp [hw] at hp
        simp [this, Ne.symm hx, hw]
      · split at hs
        · rename_i hp; simp at hs; subst hs
          have : w ≠ u := by intro e; subst e; simp [hw] at hp
          simp [this, Ne.symm hx, hw]
        · simp at hs
  all_goals (
    left
    repeat' (split at hs)
    all_goals (first | (simp at hs; done) | skip)
    all_goals (try (simp at hs; subst hs))
    all_goals (first | grind [upd_apply] | simp_all))

/-- **wait returns holding the mutex**: the only step that takes a woken waiter out of `wait` is
    its own acquisition of the mutex -/
theorem C05_wait_returns_locked (s s' : St) (l : Lbl) (w : Tid) (hw : s.pc w = .wWoken)
    (hs : step s l = some s') (hret : s'.pc w = .idle) : s'.holder = some w ∧ s.holder = none := by
  cases l <;> simp only [step] at hs
  case acquire t =>
    split at hs
    · rename_i hc; simp at hs; subst hs; simp [hw] at hret
    · split at hs
      · rename_i hc; simp at hs; subst hs
        by_cases e : w = t
        · subst e; exact ⟨rfl, hc.1⟩
        · simp [e, hw] at hret
      · simp at hs
  case push u x =>
    split at hs
    · rename_i hp; simp at hs; subst hs
      have : w ≠ u := by intro e; subst e; simp [hw] at hp
      grind [upd_apply]
    · split at hs
      · rename_i hp; simp at hs; subst hs
        have : w ≠ u := by intro e; subst e; simp [hw] at hp
        grind [upd_apply]
      · simp at hs
  all_goals (
    exfalso
    repeat' (split at hs)
    all_goals (first | (simp at hs; done) | skip)
    all_goals (try (simp at hs; subst hs))
    all_goals (first | grind [upd_apply] | simp_all))

def demo : List Lbl :=
  [.acquire 1, .waitStart 1, .blockBegin 1, .cbEnq 1, .cbRelease 1,
   .acquire 2, .waitStart 2, .blockBegin 2, .cbEnq 2, .cbRelease 2,
   .acquire 3, .bcStart 3, .bcDeq 3 (some 1), .push 3 1, .bcDeq 3 (some 2), .push 3 2, .bcDeq 3 none,
   .release 3, .acquire 1]

example : ∃ s, runs step init demo = some s ∧ s.holder = some 1 ∧ s.pc 1 = .idle ∧ s.pc 2 = .wWoken ∧
    s.cq = [] ∧ s.wakes 1 = 1 ∧ s.wakes 2 = 1 := by
  refine ⟨_, rfl, ?_⟩; decide

/-- a signaler without the mutex may dequeue a waiter whose callback has not released yet: allowed, and handled -/
example : ∃ s, runs step init [.acquire 1, .waitStart 1, .blockBegin 1, .cbEnq 1, .sigStart 2,
    .sigDeq 2 (some 1), .push 2 1, .cbRelease 1, .acquire 1] = some s ∧ s.holder = some 1 ∧ s.pc 1 = .idle := by
  refine ⟨_, rfl, ?_⟩; decide

end MythVerif.Cond
