import MythVerif.Properties.C12
/-!
# C13 — each thread is reaped exactly once and reaping recycles its resources

Model `MythVerif.Life`: one thread record, the finishing thread and any number of threads
running join / tryjoin (timedjoin = tryjoin in a loop, deadline logic in C20) / detach against
it, all interleavings, both creation modes (`init arg d`, `d` = detach-state attribute).
"Exactly one reaping operation" is the `claimed` discipline of the model (WellUsed).
-/
namespace MythVerif.Life
open MythVerif

/-- the record and the stack are never released twice, whatever the order of finish and reap -/
theorem C13_release_at_most_once (arg : Val) (d : Bool) (s : St) (h : Reach arg d s) :
    s.descFrees ≤ 1 ∧ s.stackFrees ≤ 1 := by
  refine ⟨?_, (C12_stack_released_after_switch arg d s h).1⟩
  by_cases hf : s.descFrees ≥ 1
  · exact Nat.le_of_eq (C12_record_intact_until_reap arg d s h hf).1
  · omega

/-- no reaper is still inside an operation -/
def reapersDone (s : St) : Prop :=
  ∀ j, s.pc j = .idle ∨ (∃ v, s.pc j = .done v) ∨ s.pc j = .ddone ∨ s.pc j = .ddoneSet

/-- **reaped exactly once**: when the thread has finished completely and its (one) reaping
    operation — join, successful tryjoin/timedjoin, detach before or after the finish, or the
    detach-state attribute at creation — has completed, the record and the stack have each been
    released exactly once -/
theorem C13_reap_exactly_once (arg : Val) (d : Bool) (s : St) (h : Reach arg d s)
    (hfin : s.tpc = .fDone) (hcl : s.claimed = true) (hdone : reapersDone s) :
    s.descFrees = 1 ∧ s.stackFrees = 1 := by
  have hi := reach_inv arg d s h
  refine ⟨?_, by rw [hi.stk]; simp [hfin, tStackGone]⟩
  rw [hi.dfc]
  rcases hi.cl.mp hcl with hid | hr
  · -- created detached: nobody else may reap, the finisher released the record
    have := hi.idt hid
    have hnf : s.rfreed = false := by
      cases hrf : s.rfreed with
      | false => rfl
      | true => exact absurd this.2 (hi.rf0 hrf)
    simp [hfin, this.1, hnf]
  · cases hrp : s.reaper with
    | none => exact absurd hrp hr
    | some j =>
      have hne : s.pc j ≠ .idle := (hi.rp j).mpr hrp
      rcases hdone j with e | ⟨v, e⟩ | e | e
      · exact absurd e hne
      · have hrf := (hi.rf1 j hrp).mpr (Or.inl ⟨v, e⟩)
        have := (hi.finD (hi.rfF hrf)).2
        simp [hrf, this]
      · have hrf := (hi.rf1 j hrp).mpr (Or.inr e)
        have := (hi.finD (hi.rfF hrf)).2
        simp [hrf, this]
      · have hdet := hi.dSet j e
        have hnf : s.rfreed = false := by
          cases hrf : s.rfreed with
          | false => rfl
          | true =>
            rcases (hi.rf1 j hrp).mp hrf with ⟨v, e'⟩ | e' <;> simp [e] at e'
        simp [hfin, hdet, hnf]

/-- **try-join reports busy exactly when the target has not finished** (at its locked check),
    then changes nothing but the EBUSY counter; otherwise it claims the so far unclaimed thread
    and goes to the wait of join -/
theorem C13_tryjoin_busy_iff (s s' : St) (j : Tid) (f : Bool) (hs : step s (.tjLocked j f) = some s') :
    f = s.fin ∧
    (f = false → s' = { s with busy := s.busy + 1 }) ∧
    (f = true → s'.pc j = .jSpin ∧ s'.claimed = true ∧ s.claimed = false) := by
  simp only [step] at hs
  split at hs
  · rename_i hc
    refine ⟨hc.2.2, ?_, ?_⟩
    · intro hf; subst hf; simp at hs; exact hs.symm
    · intro hf; subst hf
      simp at hs
      obtain ⟨hcl, hs⟩ := hs
      subst hs; simp [hcl]
  · simp at hs

/-- **detaching never disturbs the target**: detach touches only the `detached` flag, the
    record's lock and the detacher's own state — never the result, the status, the join
    registration or anything the running target reads -/
theorem C13_detach_undisturbed (s s' : St) (j : Tid) (f : Bool)
    (hs : step s (.dFast j f) = some s' ∨ step s (.dLocked j f) = some s') :
    s'.result = s.result ∧ s'.fin = s.fin ∧ s'.tpc = s.tpc ∧ s'.jt = s.jt ∧ s'.retv = s.retv ∧
    s'.stackFrees = s.stackFrees ∧ s'.started = s.started ∧ s'.tlock = s.tlock ∧
    (∀ k, k ≠ j → s'.pc k = s.pc k) := by
  rcases hs with hs | hs <;> simp only [step] at hs <;> split at hs
  · split at hs <;> (simp at hs; subst hs; simp; intro k hk; simp [hk])
  · simp at hs
  · split at hs <;> (simp at hs; subst hs; simp; intro k hk; simp [hk])
  · simp at hs

/-- a finisher that sees the `detached` flag when it would publish does not publish `fin` and
    goes on to release the record itself (`fFreeing`) -/
theorem C13_detached_finisher_frees (arg : Val) (d : Bool) (s s' : St) (h : Reach arg d s)
    (hs : step s (.tPublish true) = some s') : s.det = true ∧ s'.tpc = .fFreeing ∧ s'.fin = false := by
  have hi := reach_inv arg d s h
  simp only [step] at hs
  split at hs
  · split at hs
    · rename_i hd
      simp at hs; subst hs
      have hf : s.fin = false := by
        cases hfin : s.fin with
        | false => rfl
        | true => have := (hi.finD hfin).1; simp_all
      exact ⟨hd.symm, rfl, hf⟩
    · simp at hs
  · simp at hs

/-! ### non-vacuity: the four reaping modes reach the terminal state -/
def finishSteps (v : Val) (w : Option Tid) (d : Bool) : List Lbl :=
  [.tStart, .tFinish v, .tLockRead w, .tStackFree, .tPublish d]

/-- join issued first, target finishes later -/
example : ∃ s, runs step (init 7 false) ([.jLocked 1 false, .jSwitch 1, .jSet 1] ++ finishSteps 42 (some 1) false ++
    [.jReap 1 42, .descFree 1]) = some s ∧ s.tpc = .fDone ∧ s.pc 1 = .done 42 ∧ s.descFrees = 1 ∧ s.stackFrees = 1 := by
  refine ⟨_, rfl, ?_⟩; decide
/-- target finishes first, try-join busy once then succeeds -/
example : ∃ s, runs step (init 7 false) ([.tStart, .tjLocked 1 false, .tFinish 5, .tLockRead none, .tStackFree,
    .tPublish false, .tjLocked 1 true, .jReap 1 5, .descFree 1]) = some s ∧ s.busy = 1 ∧ s.pc 1 = .done 5 ∧ s.descFrees = 1 := by
  refine ⟨_, rfl, ?_⟩; decide
/-- detach before the finish -/
example : ∃ s, runs step (init 7 false) ([.tStart, .dFast 2 false, .dLocked 2 false, .tFinish 5, .tLockRead none,
    .tStackFree, .tPublish true, .tDescFree]) = some s ∧ s.tpc = .fDone ∧ s.pc 2 = .ddoneSet ∧ s.descFrees = 1 := by
  refine ⟨_, rfl, ?_⟩; decide
/-- created detached -/
example : ∃ s, runs step (init 7 true) (finishSteps 1 none true ++ [.tDescFree]) = some s ∧ s.tpc = .fDone ∧
    s.descFrees = 1 ∧ s.stackFrees = 1 := by
  refine ⟨_, rfl, ?_⟩; decide

end MythVerif.Life

namespace MythVerif.Ledger
/-- **bounded memory with one worker**: over any create/reap history on one worker the number
    of blocks ever obtained from the OS never exceeds the peak number of blocks simultaneously
    in use — every release makes the block available to the next request -/
theorem C13_bounded_memory (ops : List Op)
    (hw : ∀ op ∈ ops, (∀ w a, op = .free w a → w = 0) ∧ (∀ w, op = .get w → w = 0)) (s : St)
    (h : runOps init ops = some s) :
    s.fresh ≤ s.peak ∧ s.fresh = s.owned.length + (s.fl 0).length := by
  have hi := runOps_inv1 ops hw init s inv1_init h
  exact ⟨hi.fp, hi.cnt⟩

example : ∃ s, runOps init [.get 0, .get 0, .free 0 0, .get 0, .free 0 1, .free 0 0, .get 0] = some s ∧
    s.fresh = 2 ∧ s.peak = 2 := by
  refine ⟨_, rfl, ?_⟩; decide
end MythVerif.Ledger
