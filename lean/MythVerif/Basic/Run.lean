/-! Reachability for labelled transition systems given by a partial step function, and the
    lifting of inductive invariants to every reachable state (no bound on the number of steps). -/
namespace MythVerif

/-- run a list of labels from `s`; `none` as soon as one label is not enabled -/
def runs {S L : Type} (step : S → L → Option S) (s : S) : List L → Option S
  | [] => some s
  | l :: ls => match step s l with
    | some s' => runs step s' ls
    | none => none

/-- `s` is reachable from `init` by some finite label sequence -/
def Reachable {S L : Type} (step : S → L → Option S) (init : S) (s : S) : Prop :=
  ∃ ls : List L, runs step init ls = some s

theorem runs_inv {S L : Type} (step : S → L → Option S) (Inv : S → Prop)
    (hs : ∀ s l s', Inv s → step s l = some s' → Inv s') :
    ∀ (ls : List L) (s s' : S), Inv s → runs step s ls = some s' → Inv s' := by
  intro ls
  induction ls with
  | nil => intro s s' h hr; simp [runs] at hr; subst hr; exact h
  | cons l ls ih =>
    intro s s' h hr
    simp only [runs] at hr
    split at hr
    · rename_i s1 h1; exact ih s1 s' (hs s l s1 h h1) hr
    · simp at hr

/-- an inductive invariant holds in every reachable state -/
theorem inv_reachable {S L : Type} (step : S → L → Option S) (init : S) (Inv : S → Prop)
    (h0 : Inv init) (hs : ∀ s l s', Inv s → step s l = some s' → Inv s') :
    ∀ s, Reachable step init s → Inv s := by
  intro s ⟨ls, hr⟩
  exact runs_inv step Inv hs ls init s h0 hr

theorem runs_append {S L : Type} (step : S → L → Option S) (s : S) (l1 l2 : List L) :
    runs step s (l1 ++ l2) = (runs step s l1).bind (fun s' => runs step s' l2) := by
  induction l1 generalizing s with
  | nil => simp [runs]
  | cons l ls ih =>
    simp only [List.cons_append, runs]
    split
    · exact ih _
    · simp

theorem runs_split {S L : Type} (st : S → L → Option S) (s0 s : S) (pre : List L) (l : L) (post : List L)
    (h : runs st s0 (pre ++ l :: post) = some s) :
    ∃ s1 s2, runs st s0 pre = some s1 ∧ st s1 l = some s2 ∧ runs st s2 post = some s := by
  rw [runs_append] at h
  cases h1 : runs st s0 pre with
  | none => simp [h1] at h
  | some s1 =>
    simp [h1, runs] at h
    split at h
    · rename_i s2 h2; exact ⟨s1, s2, rfl, h2, h⟩
    · simp at h

theorem reachable_step {S L : Type} (step : S → L → Option S) (init s s' : S) (l : L)
    (h : Reachable step init s) (hs : step s l = some s') : Reachable step init s' := by
  obtain ⟨ls, hr⟩ := h
  refine ⟨ls ++ [l], ?_⟩
  rw [runs_append, hr]
  simp [runs, hs]

/-- induction over executed label sequences, extending the trace at its end -/
theorem runs_trace_ind {S L : Type} (step : S → L → Option S) (P : List L → S → Prop)
    (hs : ∀ ls s l s', P ls s → step s l = some s' → P (ls ++ [l]) s') :
    ∀ (ls pre : List L) (s0 s : S), P pre s0 → runs step s0 ls = some s → P (pre ++ ls) s := by
  intro ls
  induction ls with
  | nil => intro pre s0 s h hr; simp [runs] at hr; subst hr; simpa using h
  | cons l ls ih =>
    intro pre s0 s h hr
    simp only [runs] at hr
    split at hr
    · rename_i s1 h1
      have := ih (pre ++ [l]) s1 s (hs pre s0 l s1 h h1) hr
      simpa using this
    · simp at hr

/-- For an invariant given as a structure: the clauses after a step, one by one, from the clauses
    before it in the context; the untouched ones are there verbatim, the rest is left to `grind`
    over those hypotheses. -/
macro "glob_step" " [" xs:Lean.Parser.Tactic.grindParam,* "]" : tactic =>
  `(tactic| (constructor <;> first | assumption | grind [$xs,*]))

end MythVerif
