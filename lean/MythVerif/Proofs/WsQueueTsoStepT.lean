import MythVerif.Proofs.WsQueueTsoParts
/-! Every step of a participant other than the owner preserves the invariant of the TSO machine. -/
namespace MythVerif.WsqTso
open MythVerif.Wsq

theorem pu2_viewBase (buf : List Sto) (ptr : Int → Option Elem) (e : Elem) (t base : Int)
    (h : Pu2Shape buf ptr e t) : viewBase buf base = base := by
  rcases h with ⟨h1, _⟩ | h1 <;> simp [h1, viewBase]

theorem stepT_inv (s s' : St) (p : Pid) (h : Inv s) (hs : stepT s p = some s') : Inv s' := by
  have hat := h.thiefAt p
  obtain ⟨_, _, hf1, hf2, hf3, hf4⟩ := h.fences
  cases hpc : s.tpc p <;> rw [hpc] at hat <;>
    simp only [stepT, hpc, releaseT, hf1, hf2, hf3, hf4, fenceOk_true, List.isEmpty_iff, if_true] at hs
  case idle | wkd => cases hs
  -- lock: a failed attempt leaves the state alone or gives up
  case tkl | tpl | wtl | vl =>
    split at hs
    · split at hs <;> cases hs
      all_goals first
      | exact h.thief_acquire ‹_› rfl hat
      | exact h
      | exact h.thief_move hpc rfl rfl rfl (fun _ _ => rfl) hat
    · cases hs
  -- unlock: the fence has emptied the buffer, and the shape of the empty buffer says that no
  -- increment of `base` is visible any more
  case tk4 r | wk4u r =>
    split at hs <;> cases hs
    exact h.thief_release hpc rfl rfl ‹_› ((h.locked_view hpc rfl).2.2.2 rfl) rfl
  case tp4 ok =>
    split at hs <;> cases hs
    exact h.thief_release hpc rfl rfl ‹_› ((h.locked_view hpc rfl).2.2.2 rfl) (h.flT_none hpc rfl rfl)
  case tk6 | wk6 | vu =>
    split at hs <;> cases hs
    rename_i hb
    refine h.thief_release hpc rfl rfl hb ?_ (h.flT_none hpc rfl rfl)
    rw [hb] at hat; simp only [ThiefAt, Tk6Shape, VuShape] at hat; grind
  -- the increment of `base` is buffered, the fence drains it
  case tk1 | wk1 | vk1 =>
    have hb : s.bufT p = [] := hat
    obtain ⟨_, hbase, _, htr⟩ := h.locked_view hpc rfl
    rw [hb, viewBase_nil] at hs; cases hs
    refine h.thief_move hpc rfl rfl rfl (fun q hq => upd_other _ _ _ _ hq) ?_
    refine ⟨?_, Or.inl ⟨by rw [upd_same]; rfl, htr rfl⟩⟩
    rw [hbase, htr rfl]; simp
  case tkf b | wkf b | vkf b =>
    split at hs <;> cases hs
    rename_i hb
    refine h.thief_move hpc rfl rfl rfl (fun _ _ => rfl) ?_
    rw [hb] at hat ⊢; simp only [ThiefAt, TkfShape] at hat ⊢; grind
  -- the roll-back of `base` is buffered
  case tk5 b | wk5 b =>
    cases hs
    refine h.thief_move hpc rfl rfl rfl (fun q hq => upd_other _ _ _ _ hq) ?_
    rw [upd_same]; simp only [ThiefAt, Tk6Shape] at hat ⊢; grind
  case vk5 b =>
    cases hs
    refine h.thief_move hpc rfl rfl rfl (fun q hq => upd_other _ _ _ _ hq) ?_
    rw [upd_same]; simp only [ThiefAt, Vk5Shape, VuShape] at hat ⊢; grind
  -- take: the linearization point, or the roll-back is announced
  case tk2 b =>
    obtain ⟨hb, hlb, htr⟩ := hat
    obtain ⟨_, _, hmtop, _⟩ := h.locked_view hpc rfl
    rw [hb, viewTop_nil] at hs
    split at hs
    · have hlen := h.len
      split at hs <;> cases hs
      · rename_i x A' hA
        have hlt : s.lb < s.top := by omega
        exact h.thief_claim hpc rfl hA htr (Or.inl hlt) rfl rfl
          ⟨hb, by show s.lb + 1 = b + 1; omega, hlb ▸ h.head_slot hA hlt, rfl⟩
      · rename_i hA; rw [hA] at hlen; simp at hlen; omega
    · cases hs; exact h.thief_move hpc rfl rfl rfl (fun _ _ => rfl) ⟨hb, hlb, htr⟩
  case tk3 b x =>
    obtain ⟨hb, _, hx, hfl⟩ := hat
    rw [hb, viewPtr_nil] at hs; cases hs
    exact h.thief_move hpc rfl rfl rfl (fun _ _ => rfl) ⟨hb, hx.trans hfl.symm⟩
  -- trypass: slot store and inserting `base` store are buffered
  case tp1 e =>
    have hb : s.bufT p = [] := hat
    split at hs <;> cases hs
    · exact h.thief_move hpc rfl rfl rfl (fun _ _ => rfl) (Or.inr (Or.inr hb))
    · exact h.thief_move hpc rfl rfl rfl (fun _ _ => rfl) hb
  case tp1b e =>
    have hb : s.bufT p = [] := hat
    obtain ⟨_, hbase, _, htr⟩ := h.locked_view hpc rfl
    rw [hb, viewBase_nil] at hs; cases hs
    refine h.thief_move hpc rfl rfl rfl (fun _ _ => rfl) ⟨hb, ?_⟩
    rw [hbase, htr rfl]; simp
  case tp2 e b =>
    cases hs
    refine h.thief_move hpc rfl rfl rfl (fun q hq => upd_other _ _ _ _ hq) ?_
    rw [upd_same, hat.1, hat.2]; exact Or.inr rfl
  case tp3 e =>
    obtain ⟨_, hbase, _, htr⟩ := h.locked_view hpc rfl
    rw [pu2_viewBase _ _ _ _ s.base hat] at hs; cases hs
    refine h.thief_move hpc rfl rfl rfl (fun q hq => upd_other _ _ _ _ hq) ?_
    have : s.base = s.lb := by rw [hbase, htr rfl]; simp
    rw [upd_same, this]
    rcases hat with ⟨h1, h2⟩ | h1
    · exact Or.inr (Or.inl ⟨e, by rw [h1]; rfl, h2⟩)
    · exact Or.inl ⟨e, by rw [h1]; rfl⟩
  -- wsapi take up to the decision callback
  case wk2 b =>
    obtain ⟨hb, hlb, htr⟩ := hat
    obtain ⟨_, _, hmtop, _⟩ := h.locked_view hpc rfl
    rw [hb, viewTop_nil] at hs
    split at hs <;> cases hs
    · rename_i hlt
      obtain ⟨x, A', hA⟩ := h.window_cons (by omega)
      have := h.head_slot hA (by omega)
      exact h.thief_move hpc rfl rfl rfl (fun _ _ => rfl)
        ⟨hb, hlb, htr, by simp [hA], by rw [← hlb, this, hA]; rfl, Or.inl hlt⟩
    · exact h.thief_move hpc rfl rfl rfl (fun _ _ => rfl) ⟨hb, hlb, htr⟩
  case wk3 b =>
    obtain ⟨hb, hlb, htr, hne, hx, hw⟩ := hat
    rw [hb, viewPtr_nil] at hs; cases hs
    exact h.thief_move hpc rfl rfl rfl (fun _ _ => rfl) ⟨hb, hlb, htr, hne, hx, hw⟩
  case wk4 r =>
    cases hs
    refine h.thief_move hpc rfl rfl rfl (fun q hq => upd_other _ _ _ _ hq) ?_
    rw [upd_same, hat.1]; exact ⟨hat.2, Or.inl rfl⟩
  -- wsapi peek: the cache word under the lock, then a take that is always rolled back
  case vc1 =>
    have hb : s.bufT p = [] := hat
    split at hs <;> cases hs
    · exact h.thief_move hpc rfl rfl rfl (fun _ _ => rfl) (Or.inr (Or.inr ⟨hb, (h.locked_view hpc rfl).2.2.2 rfl⟩))
    · exact h.thief_move hpc rfl rfl rfl (fun _ _ => rfl) hb
  case vk2 b =>
    split at hs <;> cases hs
    · exact h.thief_move hpc rfl rfl rfl (fun _ _ => rfl) hat
    · exact h.thief_move hpc rfl rfl rfl (fun _ _ => rfl) ⟨hat.2.1, hat.2.2, Or.inl hat.1⟩
  case vk3 b => cases hs; exact h.thief_move hpc rfl rfl rfl (fun _ _ => rfl) hat
  case vk4 b r =>
    cases hs
    refine h.thief_move hpc rfl rfl rfl (fun q hq => upd_other _ _ _ _ hq) ?_
    rw [upd_same, hat.1]; exact ⟨hat.2.1, hat.2.2, Or.inr ⟨r, rfl⟩⟩
  -- every other step moves `p` between program counters outside the locked sections
  all_goals first
    | (cases hs; exact h.thief_move hpc rfl rfl rfl (fun _ _ => rfl) hat)
    | (split at hs <;> cases hs <;> exact h.thief_move hpc rfl rfl rfl (fun _ _ => rfl) hat)

theorem stepD_inv (s s' : St) (p : Pid) (a : Bool) (h : Inv s) (hs : stepD s p a = some s') : Inv s' := by
  have hat := h.thiefAt p
  simp only [stepD] at hs
  split at hs
  · rename_i b r hpc
    rw [hpc] at hat
    obtain ⟨hb, hlb, htr, hne, hr, hw⟩ := hat
    split at hs
    · split at hs <;> cases hs
      · rename_i x A' hA
        exact h.thief_claim hpc rfl hA htr (hlb ▸ hw) rfl rfl ⟨hb, by rw [hr, hA]; rfl⟩
      · exact absurd ‹_› hne
    · cases hs; exact h.thief_move hpc rfl rfl rfl (fun _ _ => rfl) ⟨hb, hlb, htr⟩
  · cases hs

end MythVerif.WsqTso
