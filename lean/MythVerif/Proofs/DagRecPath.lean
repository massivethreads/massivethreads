import MythVerif.Proofs.DagRecSpan
import MythVerif.Model.PiDag
/-!
The explicit dependency graph of an uncontracted execution, and the two textbook facts about
longest paths in a weighted DAG that carries a potential.

Vertices are the intervals of the execution, numbered `0, 1, …` in program order (the position in
`leavesTree t`); the weight of a vertex is the length `end − start` of its interval (`Leaf.dur`,
which is what `dr_end_interval_` stores in `t_1` / `t_inf` of a leaf).  The edges are those
`dr_pi_dag_enum_edges` emits for the uncontracted DAG, enumerated by the same recursion as
`PiDag.groupEdges` / `PiDag.teN` (`Proofs/PiDagTreeEdges.lean`, `PiDagTreeOrder.lean`), with
positions in the interval sequence in place of array slots:

* for every non-last child `x` of a section or task, an edge from the last interval of `x` to the
  first interval of its successor (`create_cont` after a create interval, `other_cont` after an
  `other` interval, `wait_cont` after a section — the section's last interval is its wait);
* if `x` is a section, for every create interval `y` among its children, a `create` edge from
  `y` to the first interval of the created task and an `end` edge from the last interval (the
  `end_task`) of the created task to the first interval of the successor of `x`.
-/
namespace MythVerif.DagRec
open MythVerif.PiDag (PEdge)

mutual
/-- position of the last interval of a node whose first interval has position `o`
    (`dr_pi_dag_node_last`: a create node is its own last interval, a section / task ends with
    the last interval of its last child) -/
def lastT : Tree → Nat → Nat
  | .ival _ _, o => o
  | .create _ _, o => o
  | .group _ f, o => lastF f o o
def lastF : Forest → Nat → Nat → Nat
  | .nil, _, d => d
  | .cons t r, o, _ => lastF r (o + (leavesTree t).length) (lastT t o)
end

def Forest.isNil : Forest → Bool
  | .nil => true
  | .cons _ _ => false

/-- kind of the edge from a non-last child to its successor -/
def contKindOf : Tree → EKind
  | .ival _ _ => .otherCont
  | .create _ _ => .createCont
  | .group _ _ => .waitCont

/-- `create` / `end` edges of one child (first interval at `o`) of a section whose continuation
    starts at `t` -/
def createOfT (t : Nat) : Tree → Nat → List PEdge
  | .create _ ch, o => [⟨.create, o, o + 1⟩, ⟨.end_, lastT ch (o + 1), t⟩]
  | _, _ => []

/-- `create` / `end` edges of the children of a section whose continuation starts at `t` -/
def createEdgesF (t : Nat) : Forest → Nat → List PEdge
  | .nil, _ => []
  | .cons x r, o => createOfT t x o ++ createEdgesF t r (o + (leavesTree x).length)

/-- the `create` / `end` edges emitted for a section -/
def sectionEdgesT (t : Nat) : Tree → Nat → List PEdge
  | .group k f, o => if k = .section then createEdgesF t f o else []
  | _, _ => []

/-- the edges emitted for the non-last child `x` (first interval at `o`) whose successor starts at `t` -/
def itemEdgesT (t : Nat) (x : Tree) (o : Nat) : List PEdge :=
  ⟨contKindOf x, lastT x o, t⟩ :: sectionEdgesT t x o

/-- the edges emitted for a section / task with children `f`, the first one starting at `o` -/
def groupEdgesF : Forest → Nat → List PEdge
  | .nil, _ => []
  | .cons x r, o =>
    (if r.isNil then [] else itemEdgesT (o + (leavesTree x).length) x o) ++
      groupEdgesF r (o + (leavesTree x).length)

mutual
/-- all edges emitted for the sections / tasks in the subtree of a node whose first interval has
    position `o` -/
def edgesT : Tree → Nat → List PEdge
  | .ival _ _, _ => []
  | .create _ ch, o => edgesT ch (o + 1)
  | .group _ f, o => groupEdgesF f o ++ edgesSubF f o
def edgesSubF : Forest → Nat → List PEdge
  | .nil, _ => []
  | .cons x r, o => edgesT x o ++ edgesSubF r (o + (leavesTree x).length)
end

/-- a vertex-weighted directed graph on the vertices `0 … dur.length − 1` -/
structure DepGraph where
  dur : List Nat
  edges : List PEdge
  deriving Repr

namespace DepGraph

def n (G : DepGraph) : Nat := G.dur.length

/-- weight of vertex `u` -/
def w (G : DepGraph) (u : Nat) : Nat := G.dur.getD u 0

/-- there is an edge from `u` to `v` -/
def Edge (G : DepGraph) (u v : Nat) : Prop := ∃ e ∈ G.edges, e.u = u ∧ e.v = v

instance (G : DepGraph) (u v : Nat) : Decidable (G.Edge u v) := by unfold Edge; infer_instance

/-- `u, r₀, r₁, …` is a walk along edges through vertices of the graph -/
def Chain (G : DepGraph) : Nat → List Nat → Prop
  | _, [] => True
  | u, v :: r => v < G.n ∧ G.Edge u v ∧ Chain G v r

instance (G : DepGraph) : ∀ (u : Nat) (r : List Nat), Decidable (G.Chain u r)
  | _, [] => isTrue trivial
  | u, v :: r =>
    have := instDecidableChain G v r
    by unfold Chain; infer_instance

/-- a path: a non-empty list of vertices, consecutive ones joined by an edge -/
def IsPath (G : DepGraph) : List Nat → Prop
  | [] => False
  | u :: r => u < G.n ∧ G.Chain u r

instance (G : DepGraph) : ∀ p, Decidable (G.IsPath p)
  | [] => isFalse (fun h => h)
  | u :: r => by unfold IsPath; infer_instance

/-- weight of a path = sum of the weights of its vertices -/
def pathWeight (G : DepGraph) (p : List Nat) : Nat := (p.map G.w).sum

theorem pathWeight_cons (G : DepGraph) (u : Nat) (r : List Nat) :
    G.pathWeight (u :: r) = G.w u + G.pathWeight r := by
  simp [pathWeight]

/-- a potential `E` (a start time for every vertex) is feasible when every edge `u → v` has
    `E u + w u ≤ E v`; then every path that starts at `u` has weight at most
    `M − E u` for every bound `M` on the finish times `E x + w x` -/
theorem chain_le (G : DepGraph) (E : Nat → Nat) (M : Nat)
    (hE : ∀ e ∈ G.edges, E e.u + G.w e.u ≤ E e.v) (hM : ∀ x, x < G.n → E x + G.w x ≤ M) :
    ∀ (r : List Nat) (u : Nat), u < G.n → G.Chain u r → E u + G.pathWeight (u :: r) ≤ M := by
  intro r
  induction r with
  | nil => intro u hu _; simpa [pathWeight] using hM u hu
  | cons v r ih =>
    intro u _ hc
    obtain ⟨hv, ⟨e, he, rfl, rfl⟩, hc'⟩ := hc
    have h1 := hE e he
    have h2 := ih e.v hv hc'
    rw [pathWeight_cons G e.u]
    omega

theorem path_le (G : DepGraph) (E : Nat → Nat) (M : Nat)
    (hE : ∀ e ∈ G.edges, E e.u + G.w e.u ≤ E e.v) (hM : ∀ x, x < G.n → E x + G.w x ≤ M)
    (p : List Nat) (hp : G.IsPath p) : G.pathWeight p ≤ M := by
  cases p with
  | nil => exact absurd hp (fun h => h)
  | cons u r =>
    have := chain_le G E M hE hM r u hp.1 hp.2
    omega

/-- if vertex `0` starts at time `0` and every other vertex `j` has a TIGHT incoming edge from an
    earlier vertex (`E u + w u = E j`), every vertex `j` is the end of a path from vertex `0` of
    weight `E j + w j` -/
theorem exists_tight_path (G : DepGraph) (E : Nat → Nat) (h0 : E 0 = 0)
    (ht : ∀ j, 0 < j → j < G.n → ∃ e ∈ G.edges, e.v = j ∧ e.u < j ∧ E e.u + G.w e.u = E j) :
    ∀ (j : Nat), j < G.n → ∀ r, G.Chain j r →
      ∃ r', G.Chain 0 r' ∧ G.pathWeight (0 :: r') = E j + G.pathWeight (j :: r) := by
  intro j
  induction j using Nat.strongRecOn with
  | _ j ih =>
    intro hj r hc
    rcases Nat.eq_zero_or_pos j with rfl | hpos
    · exact ⟨r, hc, by omega⟩
    · obtain ⟨e, he, hv, hu, hE⟩ := ht j hpos hj
      have hc' : G.Chain e.u (j :: r) := ⟨hj, ⟨e, he, rfl, hv⟩, hc⟩
      obtain ⟨r', h1, h2⟩ := ih e.u hu (by omega) (j :: r) hc'
      refine ⟨r', h1, ?_⟩
      rw [h2, pathWeight_cons G e.u]
      omega

end DepGraph

/-- **the dependency graph of an execution**: vertex `i` is the `i`-th interval in program order,
    its weight the length of that interval; the edges are the dependency edges of the
    uncontracted DAG -/
def depGraph (t : Tree) : DepGraph := { dur := (leavesTree t).map Leaf.dur, edges := edgesT t 0 }

end MythVerif.DagRec
