import MythVerif.Proofs.DagRecPathEst
/-!
The edges of the dependency graph (`edgesT`), counted by kind, are the edge counts of the
uncontracted interval sequence (`flatEC`) — the numbers the recorder's root reports in
`logical_edge_counts` (`C18_counts_exact`).
-/
namespace MythVerif.DagRec
open MythVerif.PiDag (PEdge)

def edgeCounts : List PEdge → EC
  | [] => {}
  | e :: r => EC.single e.kind 1 + edgeCounts r

theorem edgeCounts_append (a b : List PEdge) : edgeCounts (a ++ b) = edgeCounts a + edgeCounts b := by
  induction a with
  | nil => simp [edgeCounts, EC.ext_iff]
  | cons e r ih => simp [edgeCounts, ih, EC.ext_iff]; omega

theorem edgeCounts_nil : edgeCounts [] = {} := rfl

theorem edgeCounts_cons (e : PEdge) (r : List PEdge) : edgeCounts (e :: r) = EC.single e.kind 1 + edgeCounts r := rfl

theorem createEdgesF_cons (t : Nat) (x : Tree) (r : Forest) (o : Nat) :
    createEdgesF t (.cons x r) o = createOfT t x o ++ createEdgesF t r (o + (leavesTree x).length) := by
  rw [createEdgesF]

/-- the `create` / `end` edges of a section's children, emitted by the section's parent -/
def sectionOnly (b : Bool) (es : List PEdge) : List PEdge := if b then [] else es

mutual
theorem edgeCounts_tree : ∀ (x : Tree) (o : Nat),
    (∀ b t t', wnItem b x = true →
      edgeCounts (edgesT x o) + edgeCounts (itemEdgesT t x o) + edgeCounts (createOfT t' x o) = flatEC (leavesTree x)) ∧
    (∀ b, isLast b x = true → edgeCounts (edgesT x o) + ownWait b = flatEC (leavesTree x)) ∧
    (wnTask x = true → edgeCounts (edgesT x o) = flatEC (leavesTree x))
  | .ival k r, o => by
    refine ⟨?_, ?_, by simp [wnTask]⟩
    · intro b t t' h
      simp [wnItem] at h; subst h
      simp [edgesT, itemEdgesT, sectionEdgesT, createOfT, contKindOf, edgeCounts, leavesTree, flatEC, flatCount,
        EC.single, EC.ext_iff]
    · intro b h
      cases b <;> simp [isLast] at h <;> subst h <;>
        simp [edgesT, edgeCounts, leavesTree, flatEC, flatCount, ownWait, EC.ext_iff]
  | .create r ch, o => by
    refine ⟨?_, by simp [isLast], by simp [wnTask]⟩
    intro b t t' h
    rw [leavesTree, ← List.singleton_append, flatEC_append, ← (edgeCounts_tree ch (o + 1)).2.2 (wnItem_create h).2]
    simp [edgesT, itemEdgesT, sectionEdgesT, createOfT, contKindOf, edgeCounts, flatEC, flatCount, EC.single,
      EC.ext_iff]
    omega
  | .group k f, o => by
    refine ⟨?_, by simp [isLast], ?_⟩
    · intro b t t' h
      obtain ⟨rfl, hf⟩ := wnItem_group h
      have ih := edgeCounts_forest f o false t hf
      simp only [sectionOnly, Bool.false_eq_true, if_false] at ih
      simp only [edgesT, itemEdgesT, sectionEdgesT, createOfT, contKindOf, edgeCounts, leavesTree, if_true, edgeCounts_append]
      rw [← ih]
      simp [ownWait, EC.single, EC.ext_iff]; omega
    · intro h
      simp only [wnTask, Bool.and_eq_true, beq_iff_eq] at h
      obtain ⟨rfl, hf⟩ := h
      have ih := edgeCounts_forest f o true 0 hf
      simp only [sectionOnly, if_true, edgeCounts] at ih
      simp only [edgesT, leavesTree, edgeCounts_append]
      rw [← ih]
      simp [ownWait, EC.ext_iff]
theorem edgeCounts_forest : ∀ (f : Forest) (o : Nat) (b : Bool) (t : Nat), wnForest b f = true →
    edgeCounts (groupEdgesF f o) + edgeCounts (edgesSubF f o) + edgeCounts (sectionOnly b (createEdgesF t f o)) + ownWait b =
      flatEC (leavesForest f)
  | .nil, _, _, _, h => by simp [wnForest] at h
  | .cons x .nil, o, b, t, h => by
    simp only [wnForest] at h
    have ih := (edgeCounts_tree x o).2.1 b h
    obtain ⟨k, r, rfl⟩ := isLast_ival h
    rw [leavesForest_cons, show leavesTree (.ival k r) ++ leavesForest .nil = leavesTree (.ival k r) by
      simp [leavesForest], ← ih]
    cases b <;> simp [groupEdgesF, Forest.isNil, edgesSubF, createEdgesF, createOfT, edgeCounts, sectionOnly, EC.ext_iff]
  | .cons x (.cons y r'), o, b, t, h => by
    simp only [wnForest, Bool.and_eq_true] at h
    rw [leavesForest_cons, flatEC_append, ← (edgeCounts_tree x o).1 b (o + (leavesTree x).length) t h.1,
      ← edgeCounts_forest (.cons y r') (o + (leavesTree x).length) b t h.2,
      groupEdgesF_cons2, edgesSubF_cons, createEdgesF_cons]
    cases b with
    | false =>
      simp [sectionOnly, edgeCounts_append, EC.ext_iff]; omega
    | true =>
      have hc : createOfT t x o = [] := by
        cases x with
        | ival _ _ => rfl
        | group _ _ => rfl
        | create _ _ => simp [wnItem] at h
      simp [sectionOnly, hc, edgeCounts, edgeCounts_append, EC.ext_iff]; omega
end

end MythVerif.DagRec
