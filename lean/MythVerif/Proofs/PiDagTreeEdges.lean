import MythVerif.Proofs.PiDagFlattenWf
/-! `dr_pi_dag_node_first` / `last` and `dr_pi_dag_enum_edges` on a laid-out DAG, expressed on the
tree: the first / last leaf below a node (a leaf slot among the slots of the node), and the edges
emitted for a group as a list defined by recursion on the in-memory DAG. -/
namespace MythVerif.PiDag
open MythVerif.DagRec

mutual
/-- slot of the first leaf below the node at `idx` -/
def firstN : DNode → Nat → Nat → Nat
  | .ival _, idx, _ => idx
  | .create _ _, idx, _ => idx
  | .group _ ds, idx, base => firstL ds base (base + ds.length) idx
def firstL : DList → Nat → Nat → Nat → Nat
  | .nil, _, _, dflt => dflt
  | .cons d _, k, base, _ => firstN d k base
end

mutual
/-- slot of the last leaf below the node at `idx` -/
def lastN : DNode → Nat → Nat → Nat
  | .ival _, idx, _ => idx
  | .create _ _, idx, _ => idx
  | .group _ ds, idx, base => lastL ds base (base + ds.length) idx
def lastL : DList → Nat → Nat → Nat → Nat
  | .nil, _, _, dflt => dflt
  | .cons d r, k, base, _ => lastL r (k + 1) (base + descT d) (lastN d k base)
end

/-- `r` is one of the slots of the node at `idx` -/
def InN (d : DNode) (idx base r : Nat) : Prop := r = idx ∨ (base ≤ r ∧ r < base + descT d)

/-- `r` is one of the slots of the list at `k` -/
def InL (ds : DList) (k base r : Nat) : Prop := (k ≤ r ∧ r < k + ds.length) ∨ (base ≤ r ∧ r < base + descS ds)

mutual
theorem firstN_in : ∀ (d : DNode) (idx base : Nat), InN d idx base (firstN d idx base)
  | .ival _, _, _ => Or.inl rfl
  | .create _ _, _, _ => Or.inl rfl
  | .group i ds, idx, base => by
    cases ds with
    | nil => exact Or.inl rfl
    | cons d1 r =>
      have ih := firstN_in d1 base (base + (DList.cons d1 r).length)
      simp only [firstN, firstL]
      simp only [InN, descT, descL, DList.length] at ih ⊢
      have := descL_eq r
      omega
end

theorem firstL_in (ds : DList) (k base dflt : Nat) (h : ds.isNil = false) : InL ds k base (firstL ds k base dflt) := by
  cases ds with
  | nil => simp [DList.isNil] at h
  | cons d r =>
    have := firstN_in d k base
    simp only [firstL, InL, InN, DList.length, descS] at this ⊢
    omega

mutual
theorem lastN_in : ∀ (d : DNode) (idx base : Nat), InN d idx base (lastN d idx base)
  | .ival _, _, _ => Or.inl rfl
  | .create _ _, _, _ => Or.inl rfl
  | .group i ds, idx, base => by
    cases hds : ds with
    | nil => exact Or.inl rfl
    | cons d1 r =>
      rw [← hds]
      have ih := lastL_in ds base (base + ds.length) idx (by rw [hds]; rfl)
      have := descL_eq ds
      simp only [lastN, InN, InL, descT] at ih ⊢
      omega
theorem lastL_in : ∀ (ds : DList) (k base dflt : Nat), ds.isNil = false → InL ds k base (lastL ds k base dflt)
  | .nil, _, _, _, h => by simp [DList.isNil] at h
  | .cons d r, k, base, dflt, _ => by
    simp only [lastL]
    cases hr : r with
    | nil =>
      have := lastN_in d k base
      simp only [lastL, InL, InN, DList.length, descS] at this ⊢
      omega
    | cons d' r' =>
      rw [← hr]
      have := lastL_in r (k + 1) (base + descT d) (lastN d k base) (by rw [hr]; rfl)
      simp only [InL, DList.length, descS] at this ⊢
      omega
end

theorem group_kind_facts {T : Array PNode} {i : Info} {ds : DList} {g b' : Nat}
    (hl : LayN T (.group i ds) g b') (hw : gW (.group i ds) = true) :
    isGroupK T[g]!.info.c.kind = true ∧ (0 < ds.length → g + T[g]!.a = b') ∧ T[g]!.b = T[g]!.a + ds.length ∧
      (0 < ds.length → g < b') ∧ LayL T ds b' (b' + ds.length) ∧ gWL ds = true := by
  simp only [LayN] at hl
  simp only [gW, Bool.and_eq_true] at hw
  exact ⟨by rw [hl.1]; exact hw.1, fun h => (hl.2.2.1 h).1, hl.2.1, fun h => (hl.2.2.1 h).2, hl.2.2.2, hw.2⟩

theorem nongroup_kind {T : Array PNode} {d : DNode} {g b' : Nat} (hl : LayN T d g b') (hw : gW d = true)
    (hd : ∀ i ds, d ≠ .group i ds) : isGroupK T[g]!.info.c.kind = false := by
  cases d with
  | ival i =>
    simp only [LayN] at hl
    simp only [gW, Bool.and_eq_true, Bool.not_eq_true'] at hw
    rw [hl]; exact hw.2
  | create i ch =>
    simp only [LayN] at hl
    simp only [gW, Bool.and_eq_true, beq_iff_eq] at hw
    rw [hl.1, hw.1.1]; rfl
  | group i ds => exact absurd rfl (hd i ds)

/-- the descent stops at a slot without materialised children -/
theorem first_last_stop (T : Array PNode) (fuel g : Nat)
    (h : (isGroupK T[g]!.info.c.kind && decide (T[g]!.a < T[g]!.b)) = false) :
    first T fuel g = g ∧ last T fuel g = g := by
  cases fuel <;> simp [first, last, h]

mutual
theorem first_eq (T : Array PNode) : ∀ (d : DNode) (g b' fuel : Nat), LayN T d g b' → gW d = true →
    descT d ≤ fuel → first T fuel g = firstN d g b'
  | .ival i, g, b', fuel, hl, hw, _ =>
    (first_last_stop T fuel g (by simp [nongroup_kind hl hw (fun _ _ h => by cases h)])).1
  | .create i ch, g, b', fuel, hl, hw, _ =>
    (first_last_stop T fuel g (by simp [nongroup_kind hl hw (fun _ _ h => by cases h)])).1
  | .group i ds, g, b', fuel, hl, hw, hf => by
    obtain ⟨h1, h2, h3, h4, h5, h6⟩ := group_kind_facts hl hw
    simp only [firstN]
    cases ds with
    | nil =>
      simp only [DList.length] at h3
      exact (first_last_stop T fuel g (by simp; intro; omega)).1
    | cons d1 r =>
      simp only [descT, descL, DList.length] at hf h3
      cases fuel with
      | zero => omega
      | succ f =>
        simp only [LayL, DList.length] at h5
        simp only [gWL, Bool.and_eq_true] at h6
        have hab : T[g]!.a < T[g]!.b := by omega
        have h2 := h2 (by simp [DList.length])
        simp only [first, h1, hab, decide_true, Bool.and_self, if_true, firstL, h2, DList.length]
        exact first_eq T d1 b' _ f h5.1 h6.1 (by omega)
end

mutual
theorem last_eq (T : Array PNode) : ∀ (d : DNode) (g b' fuel : Nat), LayN T d g b' → gW d = true →
    descT d ≤ fuel → last T fuel g = lastN d g b'
  | .ival i, g, b', fuel, hl, hw, _ =>
    (first_last_stop T fuel g (by simp [nongroup_kind hl hw (fun _ _ h => by cases h)])).2
  | .create i ch, g, b', fuel, hl, hw, _ =>
    (first_last_stop T fuel g (by simp [nongroup_kind hl hw (fun _ _ h => by cases h)])).2
  | .group i ds, g, b', fuel, hl, hw, hf => by
    obtain ⟨h1, h2, h3, h4, h5, h6⟩ := group_kind_facts hl hw
    simp only [lastN]
    cases hds : ds with
    | nil =>
      subst hds
      simp only [DList.length] at h3
      exact (first_last_stop T fuel g (by simp; intro; omega)).2
    | cons d1 r =>
      rw [← hds]
      have hlen : 0 < ds.length := by rw [hds]; simp [DList.length]
      have hdl := descL_eq ds
      simp only [descT] at hf
      cases fuel with
      | zero => omega
      | succ f =>
        have hab : T[g]!.a < T[g]!.b := by omega
        simp only [last, h1, hab, decide_true, Bool.and_self, if_true]
        have : g + T[g]!.b - 1 = b' + ds.length - 1 := by omega
        rw [this]
        exact lastL_eq T ds b' (b' + ds.length) f g h5 h6 (by omega) hlen
theorem lastL_eq (T : Array PNode) : ∀ (ds : DList) (k base fuel dflt : Nat), LayL T ds k base → gWL ds = true →
    descS ds ≤ fuel → 0 < ds.length → last T fuel (k + ds.length - 1) = lastL ds k base dflt
  | .nil, _, _, _, _, _, _, _, h => by simp [DList.length] at h
  | .cons d r, k, base, fuel, dflt, hl, hw, hf, _ => by
    simp only [LayL] at hl
    simp only [gWL, Bool.and_eq_true] at hw
    simp only [descS] at hf
    simp only [lastL, DList.length]
    cases hr : r with
    | nil =>
      simp only [lastL, DList.length]
      have : k + (0 + 1) - 1 = k := by omega
      rw [this]
      exact last_eq T d k base fuel hl.1 hw.1 (by omega)
    | cons d' r' =>
      rw [← hr]
      have hlen : 0 < r.length := by rw [hr]; simp [DList.length]
      have : k + (r.length + 1) - 1 = k + 1 + r.length - 1 := by omega
      rw [this]
      exact lastL_eq T r (k + 1) (base + descT d) fuel _ hl.2 hw.2 (by omega) hlen
end

/-! ### the first / last leaf is a leaf among the slots of the node -/

theorem isLeaf_of_lay {T : Array PNode} {d : DNode} {g b' : Nat} (hl : LayN T d g b') (hw : gW d = true)
    (h : ∀ i ds, d = .group i ds → ds = .nil) : isLeaf T[g]! = true := by
  unfold isLeaf
  cases d with
  | group i ds =>
    obtain ⟨h1, h2, h3, h4, h5, h6⟩ := group_kind_facts hl hw
    have := h i ds rfl
    subst this
    simp only [DList.length] at h3
    have : T[g]!.a = T[g]!.b := by omega
    simp [this]
  | ival i => rw [nongroup_kind hl hw (fun _ _ h => by cases h)]; rfl
  | create i ch => rw [nongroup_kind hl hw (fun _ _ h => by cases h)]; rfl

mutual
theorem firstN_leaf (T : Array PNode) : ∀ (d : DNode) (g b' : Nat), LayN T d g b' → gW d = true →
    isLeaf T[firstN d g b']! = true
  | .ival i, g, b', hl, hw => isLeaf_of_lay hl hw (fun _ _ h => by cases h)
  | .create i ch, g, b', hl, hw => isLeaf_of_lay hl hw (fun _ _ h => by cases h)
  | .group i ds, g, b', hl, hw => by
    obtain ⟨_, _, _, _, h5, h6⟩ := group_kind_facts hl hw
    cases ds with
    | nil => exact isLeaf_of_lay hl hw (fun _ _ h => by cases h; rfl)
    | cons d1 r =>
      simp only [gWL, Bool.and_eq_true] at h6
      exact firstN_leaf T d1 b' _ h5.1 h6.1
end

mutual
theorem lastN_leaf (T : Array PNode) : ∀ (d : DNode) (g b' : Nat), LayN T d g b' → gW d = true →
    isLeaf T[lastN d g b']! = true
  | .ival i, g, b', hl, hw => isLeaf_of_lay hl hw (fun _ _ h => by cases h)
  | .create i ch, g, b', hl, hw => isLeaf_of_lay hl hw (fun _ _ h => by cases h)
  | .group i ds, g, b', hl, hw => by
    obtain ⟨_, _, _, _, h5, h6⟩ := group_kind_facts hl hw
    cases ds with
    | nil => exact isLeaf_of_lay hl hw (fun _ _ h => by cases h; rfl)
    | cons d1 r => exact (lastL_leaf T (.cons d1 r) b' _ g h5 h6 (by simp [DList.length])).2
theorem lastL_leaf (T : Array PNode) : ∀ (ds : DList) (k base dflt : Nat), LayL T ds k base → gWL ds = true →
    0 < ds.length →
    ((k ≤ lastL ds k base dflt ∧ lastL ds k base dflt < k + ds.length) ∨
      (base ≤ lastL ds k base dflt ∧ lastL ds k base dflt < base + descS ds)) ∧
    isLeaf T[lastL ds k base dflt]! = true
  | .nil, _, _, _, _, _, h => by simp [DList.length] at h
  | .cons d r, k, base, dflt, hl, hw, _ => by
    refine ⟨lastL_in (.cons d r) k base dflt rfl, ?_⟩
    simp only [gWL, Bool.and_eq_true] at hw
    cases r with
    | nil => exact lastN_leaf T d k base hl.1 hw.1
    | cons d' r' =>
      exact (lastL_leaf T (.cons d' r') (k + 1) (base + descT d) (lastN d k base) hl.2 hw.2 (by simp [DList.length])).2
end

/-! ### the edges of a group, on the tree -/

/-- `create` / `end` edges of one child of a section -/
def createOf (t : Nat) : DNode → Nat → Nat → List PEdge
  | .create _ ch, y, base => [⟨.create, y, firstN ch base (base + 1)⟩, ⟨.end_, lastN ch base (base + 1), t⟩]
  | _, _, _ => []

/-- `create` / `end` edges of the create children (at slots `y, y+1, …`) of a section whose
    continuation starts at `t` -/
def createEdges (t : Nat) : DList → Nat → Nat → List PEdge
  | .nil, _, _ => []
  | .cons d r, y, base => createOf t d y base ++ createEdges t r (y + 1) (base + descT d)

/-- the `create` / `end` edges emitted for a section -/
def sectionEdges (t : Nat) : DNode → Nat → List PEdge
  | .group i ds, bx => if i.c.kind == .section then createEdges t ds bx (bx + ds.length) else []
  | _, _ => []

/-- the edges `dr_pi_dag_enum_edges` emits for the non-last child `d` at slot `x` whose successor's
    first leaf is `t` -/
def itemEdges (kf : Nat → EKind) (t : Nat) (d : DNode) (x bx : Nat) : List PEdge :=
  ⟨kf t, lastN d x bx, t⟩ :: sectionEdges t d bx

/-- the edges emitted for a group with children `ds` at slots `k, k+1, …` -/
def groupEdges (kf : Nat → EKind) : DList → Nat → Nat → List PEdge
  | .nil, _, _ => []
  | .cons d r, k, base =>
    (if r.isNil then [] else itemEdges kf (firstL r (k + 1) (base + descT d) 0) d k base) ++
      groupEdges kf r (k + 1) (base + descT d)

def nodeEdges (kf : Nat → EKind) : DNode → Nat → Nat → List PEdge
  | .group _ ds, _, b' => groupEdges kf ds b' (b' + ds.length)
  | _, _, _ => []

def createA (T : Array PNode) (t y : Nat) : List PEdge :=
  if T[y]!.info.c.kind == .createTask then
    [⟨.create, y, first T T.size (y + T[y]!.a)⟩, ⟨.end_, last T T.size (y + T[y]!.a), t⟩]
  else []

def itemA (T : Array PNode) (x : Nat) : List PEdge :=
  let t := first T T.size (x + 1)
  ⟨contKind T[t]!.info.c.inEdgeKind, last T T.size x, t⟩ ::
    (if T[x]!.info.c.kind == .section then
      (List.range' (x + T[x]!.a) (T[x]!.b - T[x]!.a)).flatMap (createA T t) else [])

theorem range_flatMap_shift {α} (lo m : Nat) (F : Nat → List α) :
    (List.range m).flatMap (fun j => F (lo + j)) = (List.range' lo m).flatMap F := by
  rw [List.range'_eq_map_range, List.flatMap_map]

theorem edgesOfGroup_eq (T : Array PNode) (i : Nat) :
    edgesOfGroup T i = if !isGroupK T[i]!.info.c.kind then [] else
      (List.range' (i + T[i]!.a) (i + T[i]!.b - (i + T[i]!.a) - 1)).flatMap (itemA T) := by
  unfold edgesOfGroup
  simp only
  split
  · rfl
  · rw [← range_flatMap_shift]
    congr 1
    funext j
    unfold itemA
    simp only
    split
    · congr 1
      rw [← range_flatMap_shift]
      rfl
    · rfl

/-- the kind `dr_pi_dag_enum_edges` gives the edge into `t` from its predecessor in the same task -/
def kfOf (T : Array PNode) (t : Nat) : EKind := contKind T[t]!.info.c.inEdgeKind

theorem kind_ne_of_nongroup {k : NKind} (h : isGroupK k = false) : (k == NKind.section) = false := by
  cases k <;> simp_all [isGroupK]

theorem createA_eq (T : Array PNode) (t : Nat) (d : DNode) (y base : Nat) (hl : LayN T d y base) (hw : gW d = true)
    (hb : base + descT d ≤ T.size) :
    createA T t y = createOf t d y base := by
  unfold createA createOf
  cases d with
  | ival i =>
    simp only [LayN] at hl
    simp only [gW, Bool.and_eq_true, Bool.not_eq_true'] at hw
    simp [hl, hw.1]
  | group i ds =>
    obtain ⟨h1, _⟩ := group_kind_facts hl hw
    simp [isGroupK_ne_create h1]
  | create i ch =>
    simp only [LayN] at hl
    simp only [gW, Bool.and_eq_true] at hw
    simp only [descT] at hb
    simp only [hl.1, hw.1.1, if_true, hl.2.1]
    rw [first_eq T ch base (base + 1) T.size hl.2.2.2 hw.2 (by omega),
      last_eq T ch base (base + 1) T.size hl.2.2.2 hw.2 (by omega)]

theorem createEdges_eq (T : Array PNode) (t : Nat) : ∀ (ds : DList) (y base : Nat), LayL T ds y base →
    gWL ds = true → base + descS ds ≤ T.size →
    (List.range' y ds.length).flatMap (createA T t) = createEdges t ds y base
  | .nil, _, _, _, _, _ => by simp [DList.length, createEdges]
  | .cons d r, y, base, hl, hw, hb => by
    simp only [LayL] at hl
    simp only [gWL, Bool.and_eq_true] at hw
    simp only [descS] at hb
    simp only [DList.length, createEdges, List.range'_succ, List.flatMap_cons]
    rw [createA_eq T t d y base hl.1 hw.1 (by omega),
      createEdges_eq T t r (y + 1) (base + descT d) hl.2 hw.2 (by omega)]

theorem itemA_eq (T : Array PNode) (d d' : DNode) (x bx bx' : Nat) (hl : LayN T d x bx) (hw : gW d = true)
    (hb : bx + descT d ≤ T.size) (hl' : LayN T d' (x + 1) bx') (hw' : gW d' = true) (hb' : bx' + descT d' ≤ T.size) :
    itemA T x = itemEdges (kfOf T) (firstN d' (x + 1) bx') d x bx := by
  unfold itemA itemEdges
  simp only
  rw [first_eq T d' (x + 1) bx' T.size hl' hw' (by omega), last_eq T d x bx T.size hl hw (by omega)]
  congr 1
  unfold sectionEdges
  cases d with
  | ival i =>
    have := kind_ne_of_nongroup (nongroup_kind hl hw (fun _ _ h => by cases h))
    simp [this]
  | create i ch =>
    have := kind_ne_of_nongroup (nongroup_kind hl hw (fun _ _ h => by cases h))
    simp [this]
  | group i ds =>
    obtain ⟨h1, h2, h3, h4, h5, h6⟩ := group_kind_facts hl hw
    have hk : T[x]!.info.c.kind = i.c.kind := by simp only [LayN] at hl; exact hl.1
    simp only [hk]
    split
    · have : T[x]!.b - T[x]!.a = ds.length := by omega
      rw [this]
      cases ds with
      | nil => simp [DList.length, createEdges]
      | cons d1 r1 =>
        rw [h2 (by simp [DList.length])]
        simp only [descT] at hb
        have := descL_eq (.cons d1 r1)
        exact createEdges_eq T _ _ bx _ h5 h6 (by omega)
    · rfl

theorem firstL_cons (d : DNode) (r : DList) (k base dflt : Nat) : firstL (.cons d r) k base dflt = firstN d k base := rfl

theorem groupEdges_cons2 (kf : Nat → EKind) (d d' : DNode) (r : DList) (k base : Nat) :
    groupEdges kf (.cons d (.cons d' r)) k base =
      itemEdges kf (firstN d' (k + 1) (base + descT d)) d k base ++ groupEdges kf (.cons d' r) (k + 1) (base + descT d) := by
  rw [groupEdges]; simp [DList.isNil, firstL]

theorem groupEdges_eq (T : Array PNode) : ∀ (ds : DList) (k base : Nat), LayL T ds k base →
    gWL ds = true → base + descS ds ≤ T.size →
    (List.range' k (ds.length - 1)).flatMap (itemA T) = groupEdges (kfOf T) ds k base
  | .nil, _, _, _, _, _ => by simp [DList.length, groupEdges]
  | .cons d .nil, k, base, _, _, _ => by simp [DList.length, groupEdges, DList.isNil]
  | .cons d (.cons d' r), k, base, hl, hw, hb => by
    have ih := groupEdges_eq T (.cons d' r) (k + 1) (base + descT d) hl.2
      (by simp only [gWL, Bool.and_eq_true] at hw ⊢; exact hw.2) (by simp only [descS] at hb ⊢; omega)
    simp only [LayL] at hl
    simp only [gWL, Bool.and_eq_true] at hw
    simp only [descS] at hb
    have e : (DList.cons d (.cons d' r)).length - 1 = ((DList.cons d' r).length - 1) + 1 := by
      simp [DList.length]
    rw [e, List.range'_succ, List.flatMap_cons, ih]
    simp only [groupEdges, DList.isNil, Bool.false_eq_true, if_false, firstL_cons]
    rw [itemA_eq T d d' k base (base + descT d) hl.1 hw.1 (by omega) hl.2.1 hw.2.1 (by omega)]

theorem nodeEdges_eq (T : Array PNode) (d : DNode) (g b' : Nat) (hl : LayN T d g b') (hw : gW d = true)
    (hb : b' + descT d ≤ T.size) : edgesOfGroup T g = nodeEdges (kfOf T) d g b' := by
  rw [edgesOfGroup_eq]
  cases d with
  | ival i => simp [nongroup_kind hl hw (fun _ _ h => by cases h), nodeEdges]
  | create i ch => simp [nongroup_kind hl hw (fun _ _ h => by cases h), nodeEdges]
  | group i ds =>
    obtain ⟨h1, h2, h3, h4, h5, h6⟩ := group_kind_facts hl hw
    simp only [h1, Bool.not_true, Bool.false_eq_true, if_false, nodeEdges]
    have : g + T[g]!.b - (g + T[g]!.a) - 1 = ds.length - 1 := by omega
    rw [this]
    cases ds with
    | nil => simp [DList.length, groupEdges]
    | cons d1 r1 =>
      rw [h2 (by simp [DList.length])]
      simp only [descT] at hb
      have := descL_eq (.cons d1 r1)
      exact groupEdges_eq T _ b' _ h5 h6 (by omega)

end MythVerif.PiDag
