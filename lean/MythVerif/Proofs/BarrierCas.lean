import MythVerif.Proofs.Barrier
/-! Barrier invariant: preservation by the two CAS labels that need counting arguments
(`popCas`: the last pop empties the set of sleepers; `cas`: the N-th arrival). -/
namespace MythVerif.Barrier

theorem p_popCas (P : List Tid) (s s' : St) (t ok) :
    Inv P s → t ∈ P → step P.length s (.popCas t ok) = some s' → Inv P s' := by
  intro h hP hs
  simp only [step] at hs
  split at hs
  · rename_i x nx acc hpc
    have ht := h.at t
    rw [hpc] at ht
    obtain ⟨hwk, hacc, hsuf⟩ := ht.lpcA x nx acc rfl
    split at hs
    · rename_i hc
      split at hs <;> cases hs
      · rename_i hok
        subst hok
        simp at hc
        obtain ⟨hl, hto, hta, hts, htw, hrst, hnl⟩ := h.ldr (by rw [hpc]; rfl)
        replace hrst := hrst (by simp [hpc])
        have hst : s.stack = x :: nx := suffix_head_eq h.stN hsuf hc
        have hxs : x ∈ s.stack := by rw [hst]; simp
        have hxa : s.pc x = .asleep := h.stA x hxs
        have hxw : x ∉ s.wk := h.stW x hxs
        have hlen := (ht.popA rfl).2.1
        have hxo : x ∈ s.old := all_old_of_len h.oldP h.oldN hlen x (h.mem_P (by simp [hxa]))
        have hxt : x ≠ t := by intro e; subst e; rw [hpc] at hxa; cases hxa
        have hnx : x ∉ nx ∧ nx.Nodup := by have := h.stN; rw [hst] at this; exact List.nodup_cons.mp this
        have hnxs : ∀ y, y ∈ nx → y ∈ s.stack := by intro y hy; rw [hst]; simp [hy]
        have hwkn : (s.wk ++ [x]).Nodup :=
          List.nodup_append.mpr ⟨h.wkN, by simp, fun a ha b hb => by simp at hb; subst hb; exact fun e => hxw (e ▸ ha)⟩
        refine Inv.of { h.glob with stN := hnx.2, stW := ?_, wkO := ?_, wkN := hwkn, wkL := ?_, popC := ?_, pshC := ?_ }
          (at_upd ?_ fun u hut => ?_)
        all_goals try dsimp only
        · intro u hu; have := h.stW u (hnxs u hu); grind
        · intro u; have := h.wkO u; grind
        · intro e; rw [hl] at e; cases e
        · exact popC_upd h.popC (fun _ => by rw [hpc]; rfl) (by simp [hpc, blkPc])
        · intro u hu p hp hpu
          have hut : u = t := Classical.byContradiction fun e => by
            rw [upd_other _ _ _ _ e] at hu
            exact not_psh (hnl u e) hu
          subst hut
          rw [upd_same] at hu
          have hN : acc.length + 2 = P.length := Classical.byContradiction fun hN => by simp [hN] at hu
          -- the last pop: `t`, the popped threads and `x` fill `old`, so every other member has been popped
          have hnd : (u :: (s.wk ++ [x])).Nodup := List.nodup_cons.mpr ⟨by simp [htw, Ne.symm hxt], hwkn⟩
          have hsub : ∀ y, y ∈ u :: (s.wk ++ [x]) → y ∈ s.old := by
            intro y hy; have := h.wkO y; grind
          have := pigeon hnd hsub (by simp; rw [hwk]; omega) p hp
          exact Or.inr ((List.mem_cons.mp this).resolve_left hpu)
        · obtain ⟨harr, _, hpu⟩ := ht.popA rfl
          have htn : t ∉ nx := fun hm => hts (hnxs t hm)
          have hta' : t ∉ acc := hwk ▸ htw
          have htx := Ne.symm hxt
          by_cases hN : acc.length + 2 = P.length <;> simp only [hN, if_true, if_false] <;>
            constructor <;> simp [blkPc, prePc, ldrPc, popPc, *]
          all_goals omega
        · have hn := hnl u hut
          have a := h.at u
          exact { a with
            stA := fun hm => a.stA (hnxs u hm)
            wkA := fun hm => by have := a.wkA; grind
            asl := fun e => by have := a.asl e; rw [hst] at this; grind
            lrsA := fun e => by rw [e] at hn; cases hn
            lpoA := fun _ e => by rw [e] at hn; cases hn
            lpcA := fun _ _ _ e => by rw [e] at hn; cases hn
            lpuA := fun _ e => by rw [e] at hn; cases hn
            lreA := fun e => by rw [e] at hn; cases hn }
      · rename_i hok
        simp at hok; subst hok
        exact h.move hP (by simp [hpc, quiet]) (by simp [hpc, prePc, blkPc, popPc]) (by simp)
          (fun _ e => by cases e; exact ⟨hwk, hacc⟩) (by simp)
    · cases hs
  · cases hs

theorem p_cas (P : List Tid) (s s' : St) (t ok) :
    Inv P s → t ∈ P → step P.length s (.cas t ok) = some s' → Inv P s' := by
  intro h hP hs
  simp only [step] at hs
  split at hs
  · rename_i v hpc
    split at hs
    · rename_i hc
      split at hs
      · rename_i hok
        subst hok
        simp at hc
        have ht := h.at t
        rw [hpc] at ht
        have hvN := ht.rdC v rfl
        have hcnt := h.cnt
        have harrL := h.arrL
        have hr : s.rst = false := by
          cases hr : s.rst with
          | false => rfl
          | true => rw [hr] at hcnt; simp at hcnt; omega
        have hal : s.arrd.length = v := by rw [hr] at hcnt; simp at hcnt; omega
        have hta : t ∉ s.arrd := fun hm => by cases ht.arrB hm
        have hto : t ∉ s.old := fun hm => by
          rcases ht.oldPc hm with hb | hb | hb
          · cases hb
          · cases hb
          · cases ht.ldrI.mpr hb
        have hrt := (ht.preC hP hta hto).1
        have htl : s.ldr ≠ some t := fun e => hto (h.ldrO t e)
        have hts : t ∉ s.stack := fun hm => by cases ht.stA hm
        have htw : t ∉ s.wk := fun hm => by cases ht.wkA hm
        have hnd : (t :: s.arrd).Nodup := List.nodup_cons.mpr ⟨hta, h.arrN⟩
        have hsub : ∀ y, y ∈ t :: s.arrd → y ∈ P := by
          intro y hy; have := h.arrP y; grind
        split at hs <;> cases hs
        · -- the N-th arrival
          rename_i hlast
          have hcov : ∀ p, p ∈ P → p = t ∨ p ∈ s.arrd := fun p hp =>
            List.mem_cons.mp (pigeon hnd hsub (by simp only [List.length_cons]; omega) p hp)
          have hold0 : s.old = [] := by
            cases ho : s.old with
            | nil => rfl
            | cons o r =>
              have hoo : o ∈ s.old := by rw [ho]; simp
              rcases hcov o (h.oldP o hoo) with e | e
              · subst e; exact absurd hoo hto
              · have := h.arrR o e; have := h.oldR o hoo; omega
          have hldr0 : s.ldr = none := by
            cases hl : s.ldr with
            | none => rfl
            | some l => have := h.ldrO l hl; rw [hold0] at this; cases this
          have hwk0 : s.wk = [] := h.wkL hldr0
          have hnl : ∀ u, ldrPc (s.pc u) = false := fun u => by
            cases hb : ldrPc (s.pc u) with
            | false => rfl
            | true => have := (h.ldrI u).mp hb; rw [hldr0] at this; cases this
          have hge := h.retGe s.gen (Nat.le_refl _)
          refine Inv.of { h.glob with arrP := ?_, arrR := ?_, arrN := List.nodup_nil, oldP := hsub, oldR := ?_, oldN := hnd,
                                      ldrO := ?_, cnt := ?_, arrL := h.nP, rstN := ?_, wkO := ?_, wkL := ?_,
                                      popC := ?_, pshC := ?_, arrLt := ?_, arrEq := ?_, arrGt := ?_,
                                      retLt := ?_, retEq := ?_, retGe := ?_ }
            (at_upd ?_ fun u hut => ?_)
          all_goals try dsimp only
          · intro u hu; cases hu
          · intro u hu; cases hu
          · intro u hu; rcases List.mem_cons.mp hu with e | e
            · subst e; omega
            · have := h.arrR u e; omega
          · intro u e; cases e; simp
          · simp; omega
          · intro e; cases e
          · intro u hu; rw [hwk0] at hu; cases hu
          · intro e; cases e
          · intro u hu p hp hpu
            have hut : u = t := Classical.byContradiction fun e => by
              rw [upd_other _ _ _ _ e, popPc_le (hnl u)] at hu; cases hu
            subst hut
            rw [upd_other _ _ _ _ hpu]
            exact h.arrB p ((List.mem_cons.mp hp).resolve_left hpu)
          · intro u hu
            exfalso
            by_cases e : u = t
            · subst e; simp at hu
            · rw [upd_other _ _ _ _ e] at hu
              exact not_psh (hnl u) hu
          · intro k hk
            by_cases e : k = s.gen
            · subst e; rw [hrt, upd_same, h.arrEq]; omega
            · rw [upd_other _ _ _ _ (by omega)]; exact h.arrLt k (by omega)
          · rw [upd_other _ _ _ _ (by omega)]; exact h.arrGt _ (by omega)
          · intro k hk; rw [upd_other _ _ _ _ (by omega)]; exact h.arrGt k (by omega)
          · intro k hk
            by_cases e : k + 1 = s.gen
            · obtain ⟨a, b, c⟩ := h.retEq k e
              rw [hold0] at a; rw [hldr0] at b
              exact ⟨by simpa using a, by simpa using b, c hldr0⟩
            · exact h.retLt k (by omega)
          · intro k hk
            have e : k = s.gen := by omega
            subst e
            simp only [List.length_cons]
            exact ⟨by omega, by simp [hge.2.1], fun e => by cases e⟩
          · intro k hk; exact h.retGe k (by omega)
          · have := hge.2.2
            constructor <;> simp [blkPc, prePc, ldrPc, popPc, *]
          · have a := h.at u
            have hn := hnl u
            exact { a with
              arrB := fun hm => by cases hm
              oldPc := fun hm => Or.inl (a.arrB ((List.mem_cons.mp hm).resolve_left hut))
              preC := fun hp _ ho => absurd (List.mem_cons.mpr (hcov u hp)) ho
              wokO := fun e => by have := a.wokO e; rw [hold0] at this; cases this
              ldrI := by simp [hn, Ne.symm hut]
              rstL := fun e => by cases e; exact absurd rfl hut
              popA := fun e => by rw [popPc_le hn] at e; cases e
              oldW := fun e => by cases e }
        · -- nobody is releasing: otherwise every participant, also `t`, would be in `old`
          have hnopop : ∀ u, popPc (s.pc u) = false := fun u => by
            cases hb : popPc (s.pc u) with
            | false => rfl
            | true => exact absurd (all_old_of_len h.oldP h.oldN (h.popA u hb).2.1 t hP) hto
          refine Inv.of { h.glob with arrP := hsub, arrR := ?_, arrN := hnd, cnt := ?_, arrL := ?_, popC := ?_, pshC := ?_,
                                      arrLt := ?_, arrEq := ?_, arrGt := ?_ }
            (at_upd ?_ fun u hut => ?_)
          all_goals try dsimp only
          · intro u hu; rcases List.mem_cons.mp hu with e | e
            · subst e; exact hrt
            · exact h.arrR u e
          · rw [hr]; simp [hal]
          · rename_i hnl; simp only [List.length_cons]; omega
          · exact popC_upd h.popC (by simp [popPc]) (by simp [hpc, blkPc])
          · exact pshC_upd h.pshC (by simp) (by simp [hpc])
          · intro k hk; rw [upd_other _ _ _ _ (by omega)]; exact h.arrLt k hk
          · rw [hrt, upd_same, h.arrEq]; simp
          · intro k hk; rw [upd_other _ _ _ _ (by omega)]; exact h.arrGt k hk
          · constructor <;> simp [blkPc, prePc, ldrPc, popPc, *]
          · have a := h.at u
            exact { a with
              arrB := fun hm => a.arrB ((List.mem_cons.mp hm).resolve_left hut)
              preC := fun hp ha ho => a.preC hp (fun hm => ha (List.mem_cons_of_mem _ hm)) ho
              popA := fun e => by rw [hnopop u] at e; cases e }
      · rename_i hok
        simp at hok; subst hok
        cases hs
        exact h.move hP (by simp [hpc, quiet]) (by simp [hpc, prePc, blkPc, popPc]) (by simp) (by simp) (by simp)
    · cases hs
  · cases hs

end MythVerif.Barrier
