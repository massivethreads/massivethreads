import MythVerif.Proofs.PiDagBasic
/-! The chronological traversal of a DAG with a certificate `Cert` (every DAG the checker accepts has one:
`cert_of_wf` in `PiDagCert`) starts and ends every leaf exactly once, whatever order the pending events are
dequeued in. -/
namespace MythVerif.PiDag

/-! ### releasing the out-edges of a node

Both the traversal (`releaseEdges`) and the checker's elimination (`eliminate.go`) take one unit from
the counter of `e.v` for every out-edge `e` and collect the nodes whose counter has reached zero.
What is collected is described once, on counters `r : Nat → Nat`. -/

/-- number of edges of `L` that point to `v` -/
def cntV (L : List PEdge) (v : Nat) : Nat := L.countP (fun e => decide (e.v = v))

theorem cntV_cons (e : PEdge) (L : List PEdge) (v : Nat) :
    cntV (e :: L) v = cntV L v + (if e.v = v then 1 else 0) := by
  simp [cntV, List.countP_cons]

theorem cntV_append (A B : List PEdge) (v : Nat) : cntV (A ++ B) v = cntV A v + cntV B v := by
  simp [cntV, List.countP_append]

theorem cntV_pos {L : List PEdge} {v : Nat} (h : 0 < cntV L v) : ∃ e ∈ L, e.v = v := by
  obtain ⟨e, he, hp⟩ := List.countP_pos_iff.mp h
  exact ⟨e, he, by simpa using hp⟩

theorem cntV_pos_of_mem {L : List PEdge} {e : PEdge} (he : e ∈ L) : 0 < cntV L e.v :=
  List.countP_pos_iff.mpr ⟨e, he, by simp⟩

/-- the counters after one unit has been taken from `x` -/
def dec (r : Nat → Nat) (x : Nat) : Nat → Nat := fun v => if v = x then r v - 1 else r v

/-- the nodes whose counter reaches zero while the edges of `L` are released from `r`, in order -/
def zeros (r : Nat → Nat) : List PEdge → List Nat
  | [] => []
  | e :: L => if r e.v = 1 then e.v :: zeros (dec r e.v) L else zeros (dec r e.v) L

theorem dec_le {r : Nat → Nat} {e : PEdge} {L : List PEdge} (h : ∀ v, cntV (e :: L) v ≤ r v) (v : Nat) :
    cntV L v ≤ dec r e.v v := by
  have := h v
  rw [cntV_cons] at this
  unfold dec
  by_cases hv : v = e.v
  · subst hv; simp at this ⊢; omega
  · have hv' : ¬ e.v = v := fun x => hv x.symm
    simpa [hv, hv'] using this

theorem dec_sub (r : Nat → Nat) (e : PEdge) (L : List PEdge) (v : Nat) :
    dec r e.v v - cntV L v = r v - cntV (e :: L) v := by
  rw [cntV_cons]
  unfold dec
  by_cases hv : v = e.v
  · subst hv; simp; omega
  · have hv' : ¬ e.v = v := fun x => hv x.symm
    simp [hv, hv']

/-- a node is collected (once) iff the edges of `L` into it are all that `r` was waiting for -/
theorem count_zeros : ∀ (L : List PEdge) (r : Nat → Nat), (∀ v, cntV L v ≤ r v) → ∀ v,
    (zeros r L).count v = if 0 < cntV L v ∧ r v = cntV L v then 1 else 0
  | [], r, _, v => by simp [zeros, cntV]
  | e :: L, r, h, v => by
    have ih := count_zeros L (dec r e.v) (dec_le h) v
    have hv := h v
    rw [cntV_cons] at hv ⊢
    unfold zeros
    by_cases hx : v = e.v
    · subst hx
      simp only [dec, if_true] at ih
      simp only [if_true] at hv ⊢
      split
      · rw [List.count_cons_self, ih]; split <;> split <;> omega
      · rw [ih]; split <;> split <;> omega
    · have hx' : ¬ e.v = v := fun x => hx x.symm
      simp only [dec, hx, if_false] at ih
      simp only [hx', if_false, Nat.add_zero]
      split
      · rw [List.count_cons_of_ne hx', ih]
      · exact ih

theorem mem_zeros {L : List PEdge} {r : Nat → Nat} (h : ∀ v, cntV L v ≤ r v) (v : Nat) :
    v ∈ zeros r L ↔ 0 < cntV L v ∧ r v = cntV L v := by
  rw [← List.count_pos_iff, count_zeros L r h]; split <;> simp [*]

theorem nodup_zeros {L : List PEdge} {r : Nat → Nat} (h : ∀ v, cntV L v ≤ r v) : (zeros r L).reverse.Nodup := by
  rw [List.nodup_iff_count]
  intro v; rw [List.count_reverse, count_zeros L r h]; split <;> omega

theorem releaseEdges_spec (tEnd : Nat) : ∀ (L : List PEdge) (s : RState) (r : Nat → Nat),
    (∀ e ∈ L, e.v < s.readyCount.size) →
    (∀ v < s.readyCount.size, s.readyCount[v]! = (r v : Int)) →
    (∀ v, cntV L v ≤ r v) →
    ∃ rc, releaseEdges tEnd L s =
        { s with readyCount := rc, queue := s.queue ++ (zeros r L).map (⟨tEnd, .ready, ·⟩) } ∧
      rc.size = s.readyCount.size ∧
      (∀ v < s.readyCount.size, rc[v]! = ((r v - cntV L v : Nat) : Int))
  | [], s, r, _, hr, _ => ⟨s.readyCount, by simp [releaseEdges, zeros], rfl, fun v hv => by simp [cntV, hr v hv]⟩
  | e :: es, s, r, hlt, hr, hle => by
    have hev : e.v < s.readyCount.size := hlt e (by simp)
    have hre : 1 ≤ r e.v := by
      have := hle e.v; rw [cntV_cons] at this; simp at this; omega
    have hrc1 : ∀ v < s.readyCount.size, (s.readyCount.modify e.v (· - 1))[v]! = (dec r e.v v : Int) := by
      intro v hv
      rw [modify_get!, hr v hv]
      unfold dec
      by_cases h : e.v = v
      · subst h; rw [if_pos ⟨rfl, hev⟩, if_pos rfl]; omega
      · rw [if_neg (fun hh => h hh.1), if_neg (fun x => h x.symm)]
    have hzero : ((s.readyCount.modify e.v (· - 1))[e.v]! == 0) = decide (r e.v = 1) := by
      rw [hrc1 e.v hev]; simp only [dec, if_true]
      by_cases h : r e.v = 1 <;> simp [h] <;> omega
    simp only [releaseEdges, hzero, decide_eq_true_eq, zeros]
    split
    · obtain ⟨rc, heq, hsz, hrc⟩ := releaseEdges_spec tEnd es
        { s with readyCount := s.readyCount.modify e.v (· - 1), queue := s.queue ++ [⟨tEnd, .ready, e.v⟩] }
        (dec r e.v) (by simpa using fun e' he' => hlt e' (by simp [he']))
        (by simpa using hrc1) (dec_le hle)
      refine ⟨rc, by rw [heq]; simp, by simpa using hsz, fun v hv => ?_⟩
      rw [hrc v (by simpa using hv), dec_sub]
    · obtain ⟨rc, heq, hsz, hrc⟩ := releaseEdges_spec tEnd es
        { s with readyCount := s.readyCount.modify e.v (· - 1) }
        (dec r e.v) (by simpa using fun e' he' => hlt e' (by simp [he']))
        (by simpa using hrc1) (dec_le hle)
      refine ⟨rc, by rw [heq], by simpa using hsz, fun v hv => ?_⟩
      rw [hrc v (by simpa using hv), dec_sub]

/-! ### the invariant of the traversal -/

/-- pending events of kind `k` for node `v` -/
def qc (q : List Event) (k : EvKind) (v : Nat) : Nat := q.countP (fun e => decide (e.kind = k ∧ e.u = v))

theorem qc_append (q r : List Event) (k : EvKind) (v : Nat) : qc (q ++ r) k v = qc q k v + qc r k v := by
  simp [qc, List.countP_append]

theorem qc_single (e : Event) (k : EvKind) (v : Nat) :
    qc [e] k v = if e.kind = k ∧ e.u = v then 1 else 0 := by
  simp [qc, List.countP_cons]

theorem qc_eraseIdx (q : List Event) (i : Nat) (h : i < q.length) (k : EvKind) (v : Nat) :
    qc q k v = qc (q.eraseIdx i) k v + (if q[i].kind = k ∧ q[i].u = v then 1 else 0) := by
  have := countP_eraseIdx (fun e : Event => decide (e.kind = k ∧ e.u = v)) q i h
  simpa [qc] using this

/-- the events `releaseEdges` enqueues are `ready` events, one per collected node -/
theorem qc_map_ready (t : Nat) (l : List Nat) (k : EvKind) (v : Nat) :
    qc (l.map (⟨t, .ready, ·⟩)) k v = if k = .ready then l.count v else 0 := by
  induction l with
  | nil => simp [qc]
  | cons x l ih =>
    rw [List.map_cons, ← List.singleton_append, qc_append, ih, qc_single, List.count_cons]
    by_cases hk : k = .ready
    · subst hk; by_cases hx : x = v <;> simp [hx, Nat.add_comm]
    · have hk' : ¬ EvKind.ready = k := fun e => hk e.symm
      simp [hk, hk']

/-- edges into `v` from nodes that have not ended yet -/
def remaining (G : PiDag) (ended : Array Nat) (v : Nat) : Nat :=
  rsum G.T.size fun u => if ended[u]! = 0 then cntV (outEdges G u) v else 0

/-- how many `ready` events node `v` has been given so far -/
def enqOf (G : PiDag) (ended : Array Nat) (v : Nat) : Nat :=
  if v = firstLeaf G then 1
  else if 0 < (indegrees G)[v]! ∧ remaining G ended v = 0 then 1 else 0

def asum (n : Nat) (a : Array Nat) : Nat := rsum n (fun v => a[v]!)

/-- what the checker's certificate provides, in the form the traversal proof uses -/
structure Cert (G : PiDag) (rank : Nat → Option Nat) : Prop where
  fl_lt : firstLeaf G < G.T.size
  fl_leaf : isLeaf G.T[firstLeaf G]! = true
  ranked_leaf : ∀ i, (rank i).isSome → i < G.T.size ∧ isLeaf G.T[i]! = true
  leaf_ranked : ∀ i, i < G.T.size → isLeaf G.T[i]! = true → (rank i).isSome
  indeg_fl : (indegrees G)[firstLeaf G]! = 0
  indeg_leaf : ∀ i, i < G.T.size → isLeaf G.T[i]! = true → i ≠ firstLeaf G → 0 < (indegrees G)[i]!
  indeg_inner : ∀ i, i < G.T.size → isLeaf G.T[i]! = false → (indegrees G)[i]! = 0
  forward : ∀ u, u < G.T.size → ∀ e ∈ outEdges G u, ∃ a b, rank u = some a ∧ rank e.v = some b ∧ a < b
  degrees : ∀ v, v < G.T.size → (indegrees G)[v]! = rsum G.T.size (fun u => cntV (outEdges G u) v)
  indeg_size : (indegrees G).size = G.T.size

/-- A node passes the stages ready, start, lastStart, end; the four arrays count how often it passed each.
    `pipe1-3`: what passed a stage has passed the next one or has the event for it pending.  `enq`: the `ready`
    events given to `v` so far, taken or pending, number `enqOf`, which reads `ended` alone: one for the first
    leaf, one for another leaf once every node with an edge into it has ended (`rc`: `readyCount` is that number
    of unfinished in-edges).  `enqOf ≤ 1` gives "at most once" at any time (`Inv.le_one`); with the queue empty
    all four counters equal `enqOf`, and along the certificate's order it is 1 on every leaf (`final_of_inv`). -/
structure Inv (G : PiDag) (s : RState) : Prop where
  sz_rc : s.readyCount.size = G.T.size
  sz1 : s.readied.size = G.T.size
  sz2 : s.started.size = G.T.size
  sz3 : s.lastStarted.size = G.T.size
  sz4 : s.ended.size = G.T.size
  qlt : ∀ e ∈ s.queue, e.u < G.T.size
  pipe1 : ∀ v, v < G.T.size → s.readied[v]! = s.started[v]! + qc s.queue .start v
  pipe2 : ∀ v, v < G.T.size → s.started[v]! = s.lastStarted[v]! + qc s.queue .lastStart v
  pipe3 : ∀ v, v < G.T.size → s.lastStarted[v]! = s.ended[v]! + qc s.queue .end_ v
  enq : ∀ v, v < G.T.size → s.readied[v]! + qc s.queue .ready v = enqOf G s.ended v
  rc : ∀ v, v < G.T.size → s.readyCount[v]! = (remaining G s.ended v : Int)
  run : s.nRunning = (asum G.T.size s.started : Int) - asum G.T.size s.ended
  rdy : s.nReady = (asum G.T.size s.readied : Int) - asum G.T.size s.lastStarted

theorem enqOf_le_one (G : PiDag) (ended : Array Nat) (v : Nat) : enqOf G ended v ≤ 1 := by
  unfold enqOf; split <;> (try split) <;> omega

theorem Inv.le_one {G : PiDag} {s : RState} (h : Inv G s) (v : Nat) (hv : v < G.T.size) :
    s.readied[v]! ≤ 1 ∧ s.started[v]! ≤ 1 ∧ s.lastStarted[v]! ≤ 1 ∧ s.ended[v]! ≤ 1 := by
  have := h.pipe1 v hv; have := h.pipe2 v hv; have := h.pipe3 v hv; have := h.enq v hv
  have := enqOf_le_one G s.ended v
  omega

theorem asum_modify (n : Nat) (a : Array Nat) (u : Nat) (hu : u < n) (ha : a.size = n) :
    asum n (a.modify u (· + 1)) = asum n a + 1 := by
  have e : (fun v => (a.modify u fun x => x + 1)[v]!) = fun v => if u = v then a[v]! + 1 else a[v]! := by
    funext v; rw [modify_get!, ha]; simp [hu]
  have := rsum_update n u hu (fun v => a[v]!) (fun v => if u = v then a[v]! + 1 else a[v]!)
    (by intro x _ hx
        have hxu : ¬ u = x := fun e => hx e.symm
        simp [hxu])
  simp at this
  simp only [asum, e]
  omega

/-! ### one step of the traversal preserves the invariant -/

theorem get_modify_inc (a : Array Nat) (u v n : Nat) (hu : u < n) (ha : a.size = n) :
    (a.modify u (· + 1))[v]! = a[v]! + (if u = v then 1 else 0) := by
  rw [modify_get!, ha]; simp only [hu, and_true]; split <;> simp

/-- a `ready`, `start` or `lastStart` event moves node `u` one stage on: its counter of that kind goes
    up and the event of the next kind is enqueued -/
theorem step_plain (G : PiDag) (s : RState) (q' : List Event) (t u : Nat) (k : EvKind) (hk : k ≠ .end_)
    (hi : Inv G s) (hu : u < G.T.size)
    (hq : ∀ k' v, qc s.queue k' v = qc q' k' v + (if k = k' ∧ u = v then 1 else 0))
    (hsub : ∀ e ∈ q', e.u < G.T.size) :
    Inv G (processEvent G { s with queue := q' } ⟨t, k, u⟩) := by
  have inc1 := fun v => get_modify_inc s.readied u v _ hu hi.sz1
  have inc2 := fun v => get_modify_inc s.started u v _ hu hi.sz2
  have inc3 := fun v => get_modify_inc s.lastStarted u v _ hu hi.sz3
  cases k <;> first | exact absurd rfl hk | skip
  all_goals
    simp only [processEvent, account]
    constructor <;> simp only [Array.size_modify]
    · exact hi.sz_rc
    · exact hi.sz1
    · exact hi.sz2
    · exact hi.sz3
    · exact hi.sz4
    · intro e he
      simp only [List.mem_append, List.mem_singleton] at he
      rcases he with he | rfl
      · exact hsub e he
      · exact hu
    · intro v hv
      have h1 := hi.pipe1 v hv; have h2 := hq .start v
      simp only [inc1, inc2, qc_append, qc_single]; simp at h2 ⊢; omega
    · intro v hv
      have h1 := hi.pipe2 v hv; have h2 := hq .lastStart v
      simp only [inc2, inc3, qc_append, qc_single]; simp at h2 ⊢; omega
    · intro v hv
      have h1 := hi.pipe3 v hv; have h2 := hq .end_ v
      simp only [inc3, qc_append, qc_single]; simp at h2 ⊢; omega
    · intro v hv
      have h1 := hi.enq v hv; have h2 := hq .ready v
      simp only [inc1, qc_append, qc_single]; simp at h2 ⊢; omega
    · exact hi.rc
    · have h1 := hi.run; have h2 := asum_modify _ s.started u hu hi.sz2; omega
    · have h1 := hi.rdy; have h2 := asum_modify _ s.readied u hu hi.sz1
      have h3 := asum_modify _ s.lastStarted u hu hi.sz3; omega

theorem remaining_end (G : PiDag) (ended : Array Nat) (u v : Nat) (hu : u < G.T.size)
    (hsz : ended.size = G.T.size) (h0 : ended[u]! = 0) :
    remaining G (ended.modify u (· + 1)) v + cntV (outEdges G u) v = remaining G ended v := by
  have e : (fun w => if (ended.modify u (· + 1))[w]! = 0 then cntV (outEdges G w) v else 0) =
      fun w => if u = w then 0 else (if ended[w]! = 0 then cntV (outEdges G w) v else 0) := by
    funext w
    rw [get_modify_inc _ _ _ _ hu hsz]
    by_cases h : u = w
    · subst h; simp
    · simp [h]
  have := rsum_update G.T.size u hu
    (fun w => if ended[w]! = 0 then cntV (outEdges G w) v else 0)
    (fun w => if u = w then 0 else (if ended[w]! = 0 then cntV (outEdges G w) v else 0))
    (by intro x _ hx
        have hxu : ¬ u = x := fun e => hx e.symm
        simp [hxu])
  simp [h0] at this
  simp only [remaining, e]
  omega

theorem term_le_remaining (G : PiDag) (ended : Array Nat) (u v : Nat) (hu : u < G.T.size) (h0 : ended[u]! = 0) :
    cntV (outEdges G u) v ≤ remaining G ended v := by
  have := rsum_term_le G.T.size u hu (fun w => if ended[w]! = 0 then cntV (outEdges G w) v else 0)
  simpa [h0, remaining] using this

theorem enqOf_end (G : PiDag) (rank : Nat → Option Nat) (hc : Cert G rank) (ended : Array Nat)
    (u v : Nat) (hu : u < G.T.size) (hv : v < G.T.size) (hsz : ended.size = G.T.size) (h0 : ended[u]! = 0) :
    enqOf G (ended.modify u (· + 1)) v = enqOf G ended v +
      (if 0 < cntV (outEdges G u) v ∧ remaining G ended v = cntV (outEdges G u) v then 1 else 0) := by
  have hrem := remaining_end G ended u v hu hsz h0
  have hle := term_le_remaining G ended u v hu h0
  have hdeg : cntV (outEdges G u) v ≤ (indegrees G)[v]! := by
    rw [hc.degrees v hv]
    exact rsum_term_le G.T.size u hu (fun w => cntV (outEdges G w) v)
  unfold enqOf
  by_cases hfl : v = firstLeaf G
  · subst hfl
    have := hc.indeg_fl
    simp; omega
  · simp only [hfl, if_false]
    by_cases hc0 : cntV (outEdges G u) v = 0
    · have : remaining G (ended.modify u (· + 1)) v = remaining G ended v := by omega
      simp [hc0, this]
    · have h1 : 0 < (indegrees G)[v]! := by omega
      have h2 : ¬ remaining G ended v = 0 := by omega
      simp only [h1, true_and, h2, if_false, Nat.zero_add]
      have : 0 < cntV (outEdges G u) v := by omega
      simp only [this, true_and]
      by_cases h3 : remaining G ended v = cntV (outEdges G u) v
      · have : remaining G (ended.modify u (· + 1)) v = 0 := by omega
        simp [this, h3]
      · have : ¬ remaining G (ended.modify u (· + 1)) v = 0 := by omega
        simp [this, h3]

theorem step_end (G : PiDag) (rank : Nat → Option Nat) (hc : Cert G rank) (s : RState) (q' : List Event)
    (t u : Nat) (hi : Inv G s) (hu : u < G.T.size)
    (hq : ∀ k v, qc s.queue k v = qc q' k v + (if EvKind.end_ = k ∧ u = v then 1 else 0))
    (hsub : ∀ e ∈ q', e.u < G.T.size) :
    Inv G (processEvent G { s with queue := q' } ⟨t, .end_, u⟩) := by
  have h0 : s.ended[u]! = 0 := by
    have := hi.pipe3 u hu; have := hq .end_ u; have := (hi.le_one u hu).2.2.1
    simp at *; omega
  have hle := fun v => term_le_remaining G s.ended u v hu h0
  have hends : ∀ e ∈ outEdges G u, e.v < G.T.size := fun e he => by
    obtain ⟨a, b, _, hb, _⟩ := hc.forward u hu e he
    exact (hc.ranked_leaf e.v (by simp [hb])).1
  obtain ⟨rc, heq, hsz, hrc⟩ := releaseEdges_spec (G.T[u]!.info.c.end_.t) (outEdges G u)
    { s with queue := q' } (fun v => remaining G s.ended v)
    (by simpa [hi.sz_rc] using hends) (by simpa [hi.sz_rc] using hi.rc) hle
  simp only [processEvent, heq, account]
  constructor <;> simp only [Array.size_modify]
  · simpa [hi.sz_rc] using hsz
  · exact hi.sz1
  · exact hi.sz2
  · exact hi.sz3
  · exact hi.sz4
  · intro e he
    simp only [List.mem_append, List.mem_map] at he
    rcases he with he | ⟨x, hx, rfl⟩
    · exact hsub e he
    · obtain ⟨e', he', rfl⟩ := cntV_pos ((mem_zeros hle x).mp hx).1
      exact hends e' he'
  · intro v hv
    have := hi.pipe1 v hv; have := hq .start v
    rw [qc_append, qc_map_ready]; simp at *; omega
  · intro v hv
    have := hi.pipe2 v hv; have := hq .lastStart v
    rw [qc_append, qc_map_ready]; simp at *; omega
  · intro v hv
    have := hi.pipe3 v hv; have := hq .end_ v
    rw [get_modify_inc _ _ _ _ hu hi.sz4, qc_append, qc_map_ready]; simp at *; omega
  · intro v hv
    have h1 := hi.enq v hv; have h2 := hq .ready v
    rw [qc_append, qc_map_ready, if_pos rfl, count_zeros _ _ hle, enqOf_end G rank hc s.ended u v hu hv hi.sz4 h0]
    simp at h2
    omega
  · intro v hv
    have h2 := remaining_end G s.ended u v hu hi.sz4 h0
    rw [hrc v (by simpa [hi.sz_rc] using hv)]
    congr 1; omega
  · have := hi.run
    rw [asum_modify _ _ _ hu hi.sz4]; simp at *; omega
  · exact hi.rdy

theorem step_inv (G : PiDag) (rank : Nat → Option Nat) (hc : Cert G rank) (s : RState) (hi : Inv G s)
    (k : Nat) (hk : k < s.queue.length) :
    Inv G (processEvent G { s with queue := s.queue.eraseIdx k } s.queue[k]) := by
  have hu : s.queue[k].u < G.T.size := hi.qlt _ (List.getElem_mem hk)
  have hsub : ∀ e ∈ s.queue.eraseIdx k, e.u < G.T.size := fun e he => hi.qlt e (List.mem_of_mem_eraseIdx he)
  have hq := fun k' v => qc_eraseIdx s.queue k hk k' v
  rcases hev : s.queue[k] with ⟨t, kind, u⟩
  rw [hev] at hu hq
  simp only at hu hq
  by_cases hk : kind = .end_
  · subst hk; exact step_end G rank hc s _ t u hi hu hq hsub
  · exact step_plain G s _ t u kind hk hi hu hq hsub

/-! ### termination -/

/-- number of events processed so far -/
def doneCount (n : Nat) (s : RState) : Nat :=
  asum n s.readied + asum n s.started + asum n s.lastStarted + asum n s.ended

theorem Inv.done_le {G : PiDag} {s : RState} (h : Inv G s) : doneCount G.T.size s ≤ 4 * G.T.size := by
  have h1 := rsum_le G.T.size (fun v => s.readied[v]!) (fun u hu => (h.le_one u hu).1)
  have h2 := rsum_le G.T.size (fun v => s.started[v]!) (fun u hu => (h.le_one u hu).2.1)
  have h3 := rsum_le G.T.size (fun v => s.lastStarted[v]!) (fun u hu => (h.le_one u hu).2.2.1)
  have h4 := rsum_le G.T.size (fun v => s.ended[v]!) (fun u hu => (h.le_one u hu).2.2.2)
  simp only [doneCount, asum]; omega

theorem releaseEdges_arrays (tEnd : Nat) : ∀ (L : List PEdge) (s : RState),
    (releaseEdges tEnd L s).readied = s.readied ∧ (releaseEdges tEnd L s).started = s.started ∧
    (releaseEdges tEnd L s).lastStarted = s.lastStarted ∧ (releaseEdges tEnd L s).ended = s.ended := by
  intro L
  induction L with
  | nil => intro s; simp [releaseEdges]
  | cons e es ih =>
    intro s
    simp only [releaseEdges]
    split <;> (rw [(ih _).1, (ih _).2.1, (ih _).2.2.1, (ih _).2.2.2]; simp)

theorem step_done (G : PiDag) (s : RState) (hi : Inv G s) (q' : List Event) (ev : Event) (hu : ev.u < G.T.size) :
    doneCount G.T.size (processEvent G { s with queue := q' } ev) = doneCount G.T.size s + 1 := by
  obtain ⟨t, kind, u⟩ := ev
  simp only at hu
  cases kind <;> simp only [processEvent, account, doneCount]
  · rw [asum_modify _ _ _ hu hi.sz1]; omega
  · rw [asum_modify _ _ _ hu hi.sz2]; omega
  · rw [asum_modify _ _ _ hu hi.sz3]; omega
  · have := releaseEdges_arrays (G.T[u]!.info.c.end_.t) (outEdges G u) { s with queue := q' }
    rw [this.1, this.2.1, this.2.2.1, this.2.2.2]
    simp only
    rw [asum_modify _ _ _ hu hi.sz4]; omega

theorem replay_terminates (pick : List Event → Nat) (G : PiDag) (rank : Nat → Option Nat) (hc : Cert G rank) :
    ∀ (fuel : Nat) (s : RState), Inv G s → 4 * G.T.size < doneCount G.T.size s + fuel →
      (replayWith pick G fuel s).queue = [] ∧ Inv G (replayWith pick G fuel s) := by
  intro fuel
  induction fuel with
  | zero => intro s hi hlt; have := hi.done_le; omega
  | succ fuel ih =>
    intro s hi hlt
    unfold replayWith
    split
    · rename_i hq; exact ⟨hq, hi⟩
    · rename_i a q hq
      have hpos : 0 < (a :: q).length := by simp
      have hk : pick (a :: q) % (a :: q).length < s.queue.length := by
        rw [hq]; exact Nat.mod_lt _ hpos
      have hget : (a :: q)[pick (a :: q) % (a :: q).length]! = s.queue[pick (a :: q) % (a :: q).length] := by
        simp only [hq]
        rw [getElem!_pos (a :: q) _ (Nat.mod_lt _ hpos)]
      dsimp only
      rw [hget]
      have hinv := step_inv G rank hc s hi _ hk
      have hdone := step_done G s hi (s.queue.eraseIdx (pick (a :: q) % (a :: q).length))
        s.queue[pick (a :: q) % (a :: q).length] (hi.qlt _ (List.getElem_mem hk))
      have : (a :: q).eraseIdx (pick (a :: q) % (a :: q).length) = s.queue.eraseIdx (pick (a :: q) % (a :: q).length) := by
        rw [hq]
      rw [this]
      exact ih _ hinv (by omega)

/-! ### the initial state and the final verdict -/

theorem remaining_zero (G : PiDag) (rank : Nat → Option Nat) (hc : Cert G rank) (v : Nat) (hv : v < G.T.size) :
    remaining G (Array.replicate G.T.size 0) v = (indegrees G)[v]! := by
  rw [hc.degrees v hv]
  simp [remaining, replicate_get!]

theorem asum_zero (n : Nat) : asum n (Array.replicate n 0) = 0 := by
  simp only [asum]; exact rsum_eq_zero n _ (fun u _ => replicate_get! n u)

theorem inv_init (G : PiDag) (rank : Nat → Option Nat) (hc : Cert G rank) : Inv G (initReplay G) := by
  constructor <;> simp only [initReplay]
  · simp [hc.indeg_size]
  · simp
  · simp
  · simp
  · simp
  · intro e he; simp at he; subst he; exact hc.fl_lt
  · intro v _; simp [replicate_get!, qc_single]
  · intro v _; simp [replicate_get!, qc_single]
  · intro v _; simp [replicate_get!, qc_single]
  · intro v hv
    rw [replicate_get!, qc_single]
    unfold enqOf
    rw [remaining_zero G rank hc v hv]
    by_cases h : v = firstLeaf G
    · subst h; simp
    · have h' : ¬ firstLeaf G = v := fun e => h e.symm
      simp [h, h']; omega
  · intro v hv
    rw [remaining_zero G rank hc v hv]
    have hsz : v < (indegrees G).size := by rw [hc.indeg_size]; exact hv
    have h1 : ((indegrees G).map Int.ofNat)[v]! = Int.ofNat (indegrees G)[v] := by
      rw [getElem!_pos _ v (by simpa using hsz)]; simp
    rw [h1, getElem!_pos _ v hsz]; rfl
  · simp [asum_zero]
  · simp [asum_zero]

theorem final_of_inv (G : PiDag) (rank : Nat → Option Nat) (hc : Cert G rank) (r : RState)
    (hq : r.queue = []) (hi : Inv G r) :
    r.queue = [] ∧
    (∀ i, i < G.T.size → r.readied[i]! = (if isLeaf G.T[i]! then 1 else 0) ∧
      r.started[i]! = (if isLeaf G.T[i]! then 1 else 0) ∧
      r.lastStarted[i]! = (if isLeaf G.T[i]! then 1 else 0) ∧
      r.ended[i]! = (if isLeaf G.T[i]! then 1 else 0)) ∧
    r.nRunning = 0 ∧ r.nReady = 0 := by
  -- with an empty queue all four counters of a node equal the number of ready events it was given
  have hall : ∀ v, v < G.T.size → r.readied[v]! = enqOf G r.ended v ∧ r.started[v]! = enqOf G r.ended v ∧
      r.lastStarted[v]! = enqOf G r.ended v ∧ r.ended[v]! = enqOf G r.ended v := by
    intro v hv
    have h1 := hi.pipe1 v hv; have h2 := hi.pipe2 v hv; have h3 := hi.pipe3 v hv; have h4 := hi.enq v hv
    have hq' : r.queue = [] := hq
    rw [hq'] at h1 h2 h3 h4
    simp [qc] at h1 h2 h3 h4
    omega
  -- every ranked node has ended (induction along the topological order)
  have hranked : ∀ b v, v < G.T.size → rank v = some b → r.ended[v]! = 1 := by
    intro b
    induction b using Nat.strongRecOn with
    | _ b ih =>
      intro v hv hr
      rw [(hall v hv).2.2.2]
      unfold enqOf
      by_cases hfl : v = firstLeaf G
      · simp [hfl]
      · have hleaf := (hc.ranked_leaf v (by simp [hr])).2
        have hdeg := hc.indeg_leaf v hv hleaf hfl
        have hrem : remaining G r.ended v = 0 := by
          apply rsum_eq_zero
          intro u hu
          by_cases he : r.ended[u]! = 0
          · simp only [he, if_true]
            by_cases hcnt : cntV (outEdges G u) v = 0
            · exact hcnt
            · obtain ⟨e, hmem, hev⟩ := cntV_pos (Nat.pos_of_ne_zero hcnt)
              obtain ⟨a, b', ha, hb', hab⟩ := hc.forward u hu e hmem
              rw [hev, hr] at hb'
              cases hb'
              have := ih a hab u hu ha
              omega
          · simp [he]
        simp [hfl, hdeg, hrem]
  have hfinal : ∀ i, i < G.T.size → enqOf G r.ended i = (if isLeaf G.T[i]! then 1 else 0) := by
    intro i hi'
    cases hl : isLeaf G.T[i]!
    · have := hc.indeg_inner i hi' hl
      have hne : i ≠ firstLeaf G := by
        intro e; rw [e, hc.fl_leaf] at hl; cases hl
      simp [enqOf, hne, this]
    · obtain ⟨b, hb⟩ := Option.isSome_iff_exists.mp (hc.leaf_ranked i hi' hl)
      have := hranked b i hi' hb
      rw [(hall i hi').2.2.2] at this
      simp [this]
  refine ⟨hq, ?_, ?_, ?_⟩
  · intro i hi'
    have := hall i hi'; have := hfinal i hi'
    omega
  · have := hi.run
    have e : asum G.T.size r.started = asum G.T.size r.ended :=
      rsum_congr _ _ _ (fun v hv => by have := hall v hv; omega)
    rw [this, e]; omega
  · have := hi.rdy
    have e : asum G.T.size r.readied = asum G.T.size r.lastStarted :=
      rsum_congr _ _ _ (fun v hv => by have := hall v hv; omega)
    rw [this, e]; omega

end MythVerif.PiDag
