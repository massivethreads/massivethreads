import MythVerif.Proofs.WsQueueTsoTac
/-! The TSO invariant cut along the lines a step respects: clauses that speak of no particular
    program counter (`Glob`), what the owner's program counter says (`OwnerAt`), and what the
    program counter of each other participant says about its buffer and the words it guards
    (`ThiefAt`).  A step or drain of participant `p` rewrites `tpc p`, `bufT p` and a few words;
    `OwnerAt` and the `ThiefAt` of everybody else hold of the new state either because they do not
    read those words or because `p` holds the lock and they do not. -/
namespace MythVerif.WsqTso
open MythVerif.Wsq

structure Glob (s : St) : Prop where
  cfg   : s.cfg = FenceCfg.code
  lockO : s.lock = .owner ↔ ownerLocked s.opc = true
  lockT : ∀ p, s.lock = .thief p ↔ thiefLocked (s.tpc p) = true
  len   : (s.A.length : Int) = s.lt - s.lb
  mwin  : ∀ k : Nat, k < s.A.length → (s.lb + k < s.top ∨ resetting s.opc = true) → s.ptr (s.lb + k) = s.A[k]?
  shz   : resetting s.opc = false → s.sh = 0
  mtop  : resetting s.opc = false → s.top ≤ s.lt
  lbase : resetting s.opc = false → s.base = s.lb + (if s.tr = true then 1 else 0)
  trn   : s.tr = true → ∃ p, s.lock = .thief p
  trF   : ∀ p, s.lock = .thief p → notTrans (s.tpc p) = true → s.tr = false
  flOn  : ownerFlight s.opc = false → s.flO = none
  flTn  : s.flT ≠ none → ∃ p, s.lock = .thief p ∧ thiefFlight (s.tpc p) = true

/-- what the invariant says about the buffer `buf` of a participant at `pc` and the words it guards
    (the clauses `tbufE` … `vu` of `Inv`, read as a function of the program counter) -/
def ThiefAt (s : St) (buf : List Sto) : TPc → Prop
  | .tkf b | .wkf b | .vkf b => s.lb = b ∧ TkfShape buf s.tr b
  | .tk2 b | .tk5 b | .wk2 b | .wk5 b | .vk2 b | .vk3 b | .vk4 b _ => buf = [] ∧ s.lb = b ∧ s.tr = true
  | .tk3 b x => buf = [] ∧ s.lb = b + 1 ∧ s.ptr b = some x ∧ s.flT = some x
  | .tk4 r | .wk4 r => buf = [] ∧ r = s.flT
  | .tk6 | .wk6 => Tk6Shape buf s.tr s.lb
  | .tp2 _ b => buf = [] ∧ b = s.lb
  | .tp3 e => Pu2Shape buf s.ptr e (s.lb - 1)
  | .tp4 _ => InsShape buf s.ptr s.lb
  | .wk3 b => buf = [] ∧ s.lb = b ∧ s.tr = true ∧ s.A ≠ [] ∧ s.ptr b = s.A.head? ∧
      (b < s.top ∨ (popWin s.opc = true ∧ s.bufO = []))
  | .wkd b r => buf = [] ∧ s.lb = b ∧ s.tr = true ∧ s.A ≠ [] ∧ r = s.A.head? ∧
      (b < s.top ∨ (popWin s.opc = true ∧ s.bufO = []))
  | .wk4u r => r = s.flT ∧ Wk4uShape buf
  | .vk5 b => s.lb = b ∧ s.tr = true ∧ Vk5Shape buf
  | .vu => VuShape buf s.tr s.lb
  | _ => buf = []

theorem Inv.thiefAt {s : St} (h : Inv s) (p : Pid) : ThiefAt s (s.bufT p) (s.tpc p) := by
  have hb := h.tbufE p
  cases hpc : s.tpc p <;> rw [hpc] at hb
  case tkf b => exact h.tkf p b hpc
  case wkf b => exact h.wkf p b hpc
  case vkf b => exact h.vkf p b hpc
  case tk2 b => exact ⟨hb rfl, h.tk2 p b hpc⟩
  case tk5 b => exact ⟨hb rfl, h.tk5 p b hpc⟩
  case wk2 b => exact ⟨hb rfl, h.wk2 p b hpc⟩
  case wk5 b => exact ⟨hb rfl, h.wk5 p b hpc⟩
  case vk2 b => exact ⟨hb rfl, h.vk2 p b hpc⟩
  case vk3 b => exact ⟨hb rfl, h.vk3 p b hpc⟩
  case vk4 b r => exact ⟨hb rfl, h.vk4 p b r hpc⟩
  case tk3 b x => exact ⟨hb rfl, h.tk3 p b x hpc⟩
  case tk4 r => exact ⟨hb rfl, h.tk4 p r hpc⟩
  case wk4 r => exact ⟨hb rfl, h.wk4 p r hpc⟩
  case tk6 => exact h.tk6 p hpc
  case wk6 => exact h.wk6 p hpc
  case tp2 e b => exact ⟨hb rfl, h.tp2 p e b hpc⟩
  case tp3 e => exact h.tp3 p e hpc
  case tp4 ok => exact h.tp4 p ok hpc
  case wk3 b => exact ⟨hb rfl, h.wk3 p b hpc⟩
  case wkd b r => exact ⟨hb rfl, h.wkd p b r hpc⟩
  case wk4u r => exact h.wk4u p r hpc
  case vk5 b => exact h.vk5 p b hpc
  case vu => exact h.vu p hpc
  all_goals exact hb rfl

theorem Inv.glob {s : St} (h : Inv s) : Glob s :=
  ⟨h.cfg, h.lockO, h.lockT, h.len, h.mwin, h.shz, h.mtop, h.lbase, h.trn, h.trF, h.flOn, h.flTn⟩

theorem inv_iff (s : St) : Inv s ↔ Glob s ∧ OwnerAt s s.opc ∧ ∀ p, ThiefAt s (s.bufT p) (s.tpc p) := by
  refine ⟨fun h => ⟨h.glob, h.ownerAt, h.thiefAt⟩, fun ⟨g, ho, ht⟩ => ?_⟩
  cases g
  constructor
  any_goals assumption
  case carryC => intro hc; cases hpc : s.opc <;> rw [hpc] at ho hc <;> first | exact ho | exact ho.1 | cases hc
  case pu0f => intro e t hpc; rw [hpc] at ho; exact ho.2
  case tbufE =>
    intro p hm; have := ht p
    cases hpc : s.tpc p <;> rw [hpc] at this hm <;> first | exact this | exact this.1 | cases hm
  all_goals first
    | (intros; rename_i hpc; rw [hpc] at ho; exact ho)
    | (intro p; intros; rename_i hpc; have := ht p; rw [hpc] at this; first | exact this | exact this.2)

theorem fenceOk_true (buf : List Sto) : fenceOk true buf = true ↔ buf = [] := by simp [fenceOk]

theorem Inv.fences {s : St} (h : Inv s) :
    s.cfg.pushRb = true ∧ s.cfg.popFence = true ∧ s.cfg.takeFence = true ∧ s.cfg.unlockFence = true ∧
    s.cfg.wtakeFence = true ∧ s.cfg.wpeekFence = true := by
  rw [h.cfg]; exact ⟨rfl, rfl, rfl, rfl, rfl, rfl⟩

/-- `glob_step` for a step or drain of the owner at `hpc : s.opc = …`, from `g : Glob s`: the classes
    of the old and of the new program counter are evaluated first -/
macro "tso_glob_owner " g:ident hpc:ident " [" xs:Lean.Parser.Tactic.grindParam,* "]" : tactic => `(tactic| (
  obtain ⟨cfg, lockO, lockT, len, mwin, shz, mtop, lbase, trn, trF, flOn, flTn⟩ := $g
  simp only [$hpc:ident, ownerLocked, resetting, ownerFlight] at lockO mwin shz mtop lbase flOn
  constructor
  all_goals try simp only [ownerLocked, resetting, ownerFlight]
  all_goals first | assumption | grind [$xs,*]))

/-! ### Who holds the lock -/

theorem resetting_locked (pc : OPc) (h : resetting pc = true) : ownerLocked pc = true := by
  cases pc <;> first | rfl | cases h

theorem Glob.owner_unlocked {s : St} (g : Glob s) {p : Pid} (hl : s.lock = .thief p) :
    ownerLocked s.opc = false := by
  cases ho : ownerLocked s.opc with
  | false => rfl
  | true => rw [g.lockO.2 ho] at hl; cases hl

theorem Glob.thief_unlocked {s : St} (g : Glob s) {p q : Pid} (hl : s.lock = .thief p) (hq : q ≠ p) :
    thiefLocked (s.tpc q) = false := by
  cases ht : thiefLocked (s.tpc q) with
  | false => rfl
  | true => rw [(g.lockT q).2 ht] at hl; cases hl; exact absurd rfl hq

/-- while the owner holds the lock nobody else is inside a locked section -/
theorem Glob.thieves_unlocked {s : St} (g : Glob s) (hl : ownerLocked s.opc = true) (q : Pid) :
    thiefLocked (s.tpc q) = false := by
  cases ht : thiefLocked (s.tpc q) with
  | false => rfl
  | true => have := (g.lockT q).2 ht; rw [g.lockO.2 hl] at this; cases this

/-- while somebody else holds the lock the owner is not on its reset path -/
theorem thief_not_resetting (s : St) (h : Inv s) (p : Pid) (hl : s.lock = .thief p) : resetting s.opc = false := by
  cases hr : resetting s.opc with
  | false => rfl
  | true => have := h.glob.owner_unlocked hl; rw [resetting_locked _ hr] at this; cases this

/-- what a participant inside its locked section knows about the words it reads -/
theorem Inv.locked_view {s : St} {p : Pid} {pc : TPc} (h : Inv s) (hpc : s.tpc p = pc) (hl : thiefLocked pc = true) :
    s.lock = .thief p ∧ s.base = s.lb + (if s.tr = true then 1 else 0) ∧ s.top ≤ s.lt ∧
    (notTrans pc = true → s.tr = false) := by
  subst hpc
  have hlock := (h.lockT p).2 hl
  have hr := thief_not_resetting s h p hlock
  exact ⟨hlock, h.lbase hr, h.mtop hr, h.trF p hlock⟩

theorem Inv.flT_none {s : St} {p : Pid} {pc : TPc} (h : Inv s) (hpc : s.tpc p = pc)
    (hl : thiefLocked pc = true) (hf : thiefFlight pc = false) : s.flT = none :=
  Classical.byContradiction fun hne => by
    obtain ⟨q, hq, hfl⟩ := h.flTn hne
    cases ((h.lockT p).2 (hpc ▸ hl)).symm.trans hq
    rw [hpc, hf] at hfl; cases hfl

theorem Inv.window_cons {s : St} (h : Inv s) (hlt : s.lb < s.lt) : ∃ x A', s.A = x :: A' := by
  have := h.len
  cases hA : s.A with
  | nil => rw [hA] at this; simp at this; omega
  | cons x A' => exact ⟨x, A', rfl⟩

/-- the slot at the base of a non-empty window that memory `top` has not passed -/
theorem Inv.head_slot {s : St} {x : Elem} {A' : List Elem} (h : Inv s) (hA : s.A = x :: A') (hlt : s.lb < s.top) :
    s.ptr s.lb = some x := by
  have := h.mwin 0 (by simp [hA]) (Or.inl (by simpa using hlt))
  simpa [hA] using this

/-! ### Frames -/

/-- outside the locked sections a participant's clause says that its buffer is empty, whatever the state -/
theorem ThiefAt.of_unlocked {s s' : St} {buf : List Sto} {pc : TPc} (h : ThiefAt s buf pc)
    (hu : thiefLocked pc = false) : ThiefAt s' buf pc := by
  cases pc <;> first | exact h | cases hu

/-- the others keep their clause when `p` moves -/
theorem thiefAt_upd {s : St} {tpc : Pid → TPc} {bT : Pid → List Sto} {p : Pid} {pc' : TPc}
    (ht : ∀ q, q ≠ p → ThiefAt s (bT q) (tpc q)) (hp : ThiefAt s (bT p) pc') :
    ∀ q, ThiefAt s (bT q) (upd tpc p pc' q) := by
  intro q; rw [upd_apply]; split
  · subst_vars; exact hp
  · exact ht q ‹_›

/-- the others keep their clause when the lock holder `p` rewrites its buffer -/
theorem thiefAt_updBuf {s s' : St} {p : Pid} {buf' : List Sto} (g : Glob s) (hl : s.lock = .thief p)
    (ht : ∀ q, ThiefAt s (s.bufT q) (s.tpc q)) (hp : ThiefAt s' buf' (s.tpc p)) :
    ∀ q, ThiefAt s' (upd s.bufT p buf' q) (s.tpc q) := by
  intro q; rw [upd_apply]; split
  · subst_vars; exact hp
  · exact (ht q).of_unlocked (g.thief_unlocked hl ‹_›)

/-- outside its locked sections the owner's clause reads its buffer, `top`, `lt`, `A`, the capacity,
    its in-flight slot, slots inside the window `[lb, lt]`, and that `lb` has not passed the slot
    of a committed fast pop -/
theorem OwnerAt.of_unlocked {s s' : St} {pc : OPc} (ho : OwnerAt s pc) (hu : ownerLocked pc = false)
    (hlen : (s.A.length : Int) = s.lt - s.lb)
    (hbuf : s'.bufO = s.bufO) (htop : s'.top = s.top) (hlt : s'.lt = s.lt) (hA : s'.A = s.A)
    (hsz : s'.size = s.size) (hfl : s'.flO = s.flO) (hptr : ∀ i, s.lb ≤ i → s'.ptr i = s.ptr i)
    (hlb : s'.lb ≤ s.lb) : OwnerAt s' pc := by
  have hne : s.A ≠ [] → s.lb ≤ s.lt - 1 := by
    intro h; have := List.length_pos_iff.mpr h; omega
  have hle : s.lb ≤ s.lt := by omega
  cases pc <;> try cases (hu : true = false)
  all_goals simp only [OwnerAt, CarryShape, Pu2Shape, PofShape, hbuf, htop, hlt, hA, hsz, hfl] at ho ⊢
  all_goals grind

/-- what the clause of a lock holder reads of the owner's side: slots below `lb`, and – while
    memory `top` has not been passed, or the owner is in the window of a pop with its `top` store
    drained – that `A` is non-empty, its head, and the slot at `lb` -/
theorem ThiefAt.frame {s s' : St} {buf : List Sto} {pc : TPc} (h : ThiefAt s buf pc) (hlb : s'.lb = s.lb)
    (htr : s'.tr = s.tr) (hfl : s'.flT = s.flT) (hptr : ∀ i, i < s.lb → s'.ptr i = s.ptr i)
    (hw : s.tr = true → s.A ≠ [] → (s.lb < s.top ∨ (popWin s.opc = true ∧ s.bufO = [])) →
      s'.A ≠ [] ∧ s'.A.head? = s.A.head? ∧ s'.ptr s.lb = s.ptr s.lb ∧
      (s.lb < s'.top ∨ (popWin s'.opc = true ∧ s'.bufO = []))) : ThiefAt s' buf pc := by
  cases pc <;> first | exact h | (simp only [ThiefAt, Pu2Shape, InsShape, hlb, htr, hfl] at h ⊢; grind)

/-- A step or drain of the owner: the others' program counters and buffers stay, so beside `Glob`
    and the owner's new clause only the clause of a lock holder is left to look at. -/
theorem Inv.owner_step {s s' : St} (h : Inv s) (htpc : s'.tpc = s.tpc) (hbufT : s'.bufT = s.bufT)
    (hg : Glob s') (ho : OwnerAt s' s'.opc)
    (ht : ∀ p, s.lock = .thief p → ThiefAt s (s.bufT p) (s.tpc p) → ThiefAt s' (s.bufT p) (s.tpc p)) : Inv s' := by
  refine (inv_iff _).2 ⟨hg, ho, fun q => ?_⟩
  rw [htpc, hbufT]
  cases hq : thiefLocked (s.tpc q) with
  | false => exact (h.thiefAt q).of_unlocked hq
  | true => exact ht q ((h.lockT q).2 hq) (h.thiefAt q)

/-- … while nobody else holds the lock -/
theorem Inv.owner_step_alone {s s' : St} (h : Inv s) (hl : ∀ p, s.lock ≠ .thief p) (htpc : s'.tpc = s.tpc)
    (hbufT : s'.bufT = s.bufT) (hg : Glob s') (ho : OwnerAt s' s'.opc) : Inv s' :=
  h.owner_step htpc hbufT hg ho fun p hp => absurd hp (hl p)

theorem Inv.owner_locked {s : St} {pc : OPc} (h : Inv s) (hpc : s.opc = pc) (hl : ownerLocked pc = true) :
    ∀ p, s.lock ≠ .thief p := by
  intro p hp; rw [h.lockO.2 (hpc ▸ hl)] at hp; cases hp

/-- the owner moves to a program counter of the same class, possibly appending to its buffer, and
    nothing else changes: no global clause reads the buffer -/
theorem Glob.owner_move {s : St} {pc pc' : OPc} {buf : List Sto} (g : Glob s) (hpc : s.opc = pc)
    (hl : ownerLocked pc' = ownerLocked pc) (hr : resetting pc' = resetting pc)
    (hf : ownerFlight pc' = ownerFlight pc) : Glob { s with bufO := buf, opc := pc' } := by
  subst hpc
  cases g
  constructor <;> first | assumption | (simp only [hl, hr, hf]; assumption)

theorem Glob.owner_acquire {s : St} {pc pc' : OPc} (g : Glob s) (hpc : s.opc = pc) (hfree : s.lock = .free)
    (hl : ownerLocked pc' = true) (hr : resetting pc' = resetting pc) (hf : ownerFlight pc' = ownerFlight pc) :
    Glob { s with lock := .owner, opc := pc' } := by
  subst hpc
  cases g
  constructor <;> first | assumption | grind

/-- unlock: memory `top` and `base` have caught up with the ghosts; `f` is the new (empty) in-flight slot -/
theorem Glob.owner_release {s : St} {pc pc' : OPc} {f : Option Elem} {r : List Elem} (g : Glob s)
    (hpc : s.opc = pc) (hlk : ownerLocked pc = true) (hl : ownerLocked pc' = false) (hfl : ownerFlight pc' = false)
    (hsh : s.sh = 0) (htop : s.top ≤ s.lt) (hbase : s.base = s.lb) (hf : f = none) :
    Glob { s with lock := .free, opc := pc', retd := r, flO := f } := by
  subst hpc
  have hlock := g.lockO.2 hlk
  have hr := fun h => (resetting_locked pc' h).symm.trans hl
  cases g
  constructor <;> first | assumption | grind

/-- what the owner knows inside its locked sections -/
theorem Inv.owner_view {s : St} {pc : OPc} (h : Inv s) (hpc : s.opc = pc) (hl : ownerLocked pc = true) :
    s.tr = false ∧ (s.A.length : Int) = s.lt - s.lb ∧
    (resetting pc = false → s.sh = 0 ∧ s.top ≤ s.lt ∧ s.base = s.lb) := by
  subst hpc
  have htr : s.tr = false := by
    cases ht : s.tr with
    | false => rfl
    | true => obtain ⟨p, hp⟩ := h.trn ht; exact absurd hp (h.owner_locked rfl hl p)
  refine ⟨htr, h.len, fun hr => ⟨h.shz hr, h.mtop hr, ?_⟩⟩
  have := h.lbase hr; rw [htr] at this; simpa using this

/-! ### Moves of a participant other than the owner
    proved once for any program counters of the right classes; at a use the class hypotheses are `rfl` -/

/-- `p` moves to a program counter of the same class, possibly appending to its buffer, and nothing
    else changes -/
theorem Inv.thief_move {s : St} {p : Pid} {pc pc' : TPc} {bT : Pid → List Sto} (h : Inv s) (hpc : s.tpc p = pc)
    (hl : thiefLocked pc' = thiefLocked pc) (hn : (!notTrans pc' || notTrans pc) = true)
    (hf : thiefFlight pc' = thiefFlight pc) (hbT : ∀ q, q ≠ p → bT q = s.bufT q) (hp : ThiefAt s (bT p) pc') :
    Inv { s with bufT := bT, tpc := upd s.tpc p pc' } := by
  obtain ⟨g, ho, ht⟩ := (inv_iff s).1 h
  refine (inv_iff _).2 ⟨?_, ho, thiefAt_upd (fun q hq => ?_) hp⟩
  · cases g
    glob_step [upd_apply]
  · show ThiefAt s (bT q) (s.tpc q)
    rw [hbT q hq]; exact ht q

theorem Inv.thief_acquire {s : St} {p : Pid} {pc' : TPc} (h : Inv s) (hfree : s.lock = .free)
    (hl : thiefLocked pc' = true) (hp : ThiefAt s (s.bufT p) pc') :
    Inv { s with lock := .thief p, tpc := upd s.tpc p pc' } := by
  obtain ⟨g, ho, ht⟩ := (inv_iff s).1 h
  refine (inv_iff _).2 ⟨?_, ho, thiefAt_upd (fun q _ => ht q) hp⟩
  cases g
  glob_step [upd_apply]

/-- unlock (after its fence: the buffer is empty); `f` is the new (empty) in-flight slot -/
theorem Inv.thief_release {s : St} {p : Pid} {pc pc' : TPc} {f : Option Elem} {r : List Elem} (h : Inv s)
    (hpc : s.tpc p = pc) (hlk : thiefLocked pc = true) (hl : thiefLocked pc' = false) (hb : s.bufT p = [])
    (htr : s.tr = false) (hf : f = none) :
    Inv { s with lock := .free, tpc := upd s.tpc p pc', retd := r, flT := f } := by
  obtain ⟨g, ho, ht⟩ := (inv_iff s).1 h
  have hlock := (g.lockT p).2 (hpc ▸ hlk)
  refine (inv_iff _).2 ⟨?_, ho, thiefAt_upd (fun q hq => (ht q).of_unlocked (g.thief_unlocked hlock hq)) ?_⟩
  · cases g
    glob_step [upd_apply]
  · show ThiefAt _ (s.bufT p) pc'
    rw [hb]; cases pc' <;> first | rfl | cases hl

/-- the linearization point of a successful take: the lock holder claims the head of `A` -/
theorem Inv.thief_claim {s : St} {p : Pid} {pc pc' : TPc} {x : Elem} {A' : List Elem} (h : Inv s)
    (hpc : s.tpc p = pc) (hlk : thiefLocked pc = true) (hA : s.A = x :: A') (htr : s.tr = true)
    (hwin : s.lb < s.top ∨ (popWin s.opc = true ∧ s.bufO = []))
    (hl' : thiefLocked pc' = true) (hf' : thiefFlight pc' = true)
    (hp : ThiefAt { s with A := A', lb := s.lb + 1, tr := false, flT := some x } (s.bufT p) pc') :
    Inv { s with tpc := upd s.tpc p pc', A := A', lb := s.lb + 1, tr := false, flT := some x } := by
  obtain ⟨g, ho, ht⟩ := (inv_iff s).1 h
  have hlock := (g.lockT p).2 (hpc ▸ hlk)
  have hu := g.owner_unlocked hlock
  have hlen := g.len
  refine (inv_iff _).2 ⟨?_, ?_, thiefAt_upd (fun q hq => (ht q).of_unlocked (g.thief_unlocked hlock hq)) hp⟩
  · have hmwin := g.mwin
    cases g
    constructor
    case mwin =>
      intro k (hk : k < A'.length) (hk2 : s.lb + 1 + k < s.top ∨ resetting s.opc = true)
      have h1 := hmwin (k + 1) (by simp [hA]; omega) (hk2.elim (fun h => Or.inl (by omega)) Or.inr)
      simp only [hA, List.getElem?_cons_succ] at h1
      rw [← h1]; show s.ptr (s.lb + 1 + k) = s.ptr (s.lb + (k + 1 : Nat)); congr 1; omega
    all_goals first | assumption | grind [upd_apply]
  · -- the owner is outside its locked sections: its shapes speak of the last element of `A` only
    show OwnerAt _ s.opc
    rw [hA] at hlen
    cases hopc : s.opc <;> rw [hopc] at ho hu hwin <;> try cases (hu : true = false)
    case idle | pu0 | pq | po1 | ptl | cll =>
      exact carry_tail _ _ _ s.lb _ x A' (hA ▸ ho) hlen (by simpa [popWin] using hwin)
    case pu0f => exact ⟨carry_tail _ _ _ s.lb _ x A' (hA ▸ ho.1) hlen (by simpa [popWin] using hwin), ho.2⟩
    case pof t => exact ⟨ho.1, pof_tail _ _ s.lt s.lb _ _ x A' (hA ▸ ho.2) ho.1 hlen (hwin.imp id And.right)⟩
    all_goals (simp only [OwnerAt, hA] at ho ⊢; grind [getLast?_tail_of_length])

end MythVerif.WsqTso
