import MythVerif.Model.PthOnce
import MythVerif.Proofs.PthProg
/-!
Determinacy of the fork-join + lock-protected-commutative + monotone-gate + one-time-initialisation
fragment (`MythVerif.PthOnce.OProg`).

Every step is either *quiet* (the once-controls and the run counters do not change and
`counters + odelta` is preserved) or it *fires* exactly one control `k` that was mentioned and not
done (`done k` becomes true, `runs k` grows by one, `counters + odelta` grows by the effect of
`init k`); a control that is not done after the step is mentioned after it iff it was before.  Hence
along every execution `counters + odelta(remaining term)` has grown by the routines of exactly the
controls that became done, each counted once, and at the end every mentioned control is done.
-/
namespace MythVerif.PthOnce
open MythVerif.PthProg (Store Store.bump)
open MythVerif.PthGate (Gates Gates.bump)

variable {init : Nat → List (Nat × Int)}

theorem applyInit_eq (l : List (Nat × Int)) (σ : Store) (i : Nat) :
    applyInit l σ i = σ i + ieff l i := by
  induction l generalizing σ with
  | nil => simp [applyInit, ieff]
  | cons ca l ih =>
    simp only [applyInit, ieff, ih, Store.bump]
    split <;> omega

theorem mem_dedup (l : List Nat) (x : Nat) : x ∈ dedup l ↔ x ∈ l := by
  induction l with
  | nil => simp [dedup]
  | cons y ys ih =>
    simp only [dedup]
    split
    · simp only [List.mem_cons, ih]
      exact ⟨Or.inr, fun h => h.elim (fun e => ih.mp (e ▸ ‹y ∈ dedup ys›)) id⟩
    · simp only [List.mem_cons, ih]

theorem nodup_dedup (l : List Nat) : (dedup l).Nodup := by
  induction l with
  | nil => simp [dedup]
  | cons y ys ih =>
    simp only [dedup]
    split
    · exact ih
    · exact List.nodup_cons.mpr ⟨‹_›, ih⟩

theorem initSum_congr (f g : Nat → Bool) (L : List Nat) (h : ∀ k ∈ L, f k = g k) (i : Nat) :
    initSum init f L i = initSum init g L i := by
  induction L with
  | nil => rfl
  | cons x xs ih =>
    simp only [initSum]
    rw [h x (by simp), ih (fun k hk => h k (by simp [hk]))]

theorem initSum_none (f : Nat → Bool) (L : List Nat) (h : ∀ k ∈ L, f k = false) (i : Nat) :
    initSum init f L i = 0 := by
  induction L with
  | nil => rfl
  | cons x xs ih => simp_all [initSum]

theorem initSum_or (f g : Nat → Bool) (L : List Nat) (h : ∀ k ∈ L, f k = false ∨ g k = false) (i : Nat) :
    initSum init (fun k => f k || g k) L i = initSum init f L i + initSum init g L i := by
  induction L with
  | nil => rfl
  | cons x xs ih =>
    simp only [initSum, ih (fun k hk => h k (by simp [hk]))]
    rcases h x (by simp) with e | e <;> simp [e] <;> omega

theorem initSum_single (k : Nat) (L : List Nat) (hn : L.Nodup) (hk : k ∈ L) (i : Nat) :
    initSum init (fun j => decide (j = k)) L i = ieff (init k) i := by
  induction L with
  | nil => cases hk
  | cons x xs ih =>
    obtain ⟨hx, hn'⟩ := List.nodup_cons.mp hn
    simp only [initSum]
    by_cases e : x = k
    · subst e
      rw [initSum_none _ xs (fun j hj => by simp; rintro rfl; exact hx hj)]
      simp
    · rw [ih hn' (by simpa [Ne.symm e] using hk)]
      simp [e]

/-- a step that does not run a routine -/
def Quiet (x y : Cfg) : Prop :=
  y.2.done = x.2.done ∧ y.2.runs = x.2.runs ∧
  ∀ i, y.2.cnt i + odelta y.1 i = x.2.cnt i + odelta x.1 i

/-- a step that runs the routine of control `k` -/
def Fires (init : Nat → List (Nat × Int)) (k : Nat) (x y : Cfg) : Prop :=
  x.2.done k = false ∧ k ∈ onces x.1 ∧
  y.2.done = (fun j => if j = k then true else x.2.done j) ∧
  y.2.runs = (fun j => if j = k then x.2.runs j + 1 else x.2.runs j) ∧
  ∀ i, y.2.cnt i + odelta y.1 i = x.2.cnt i + odelta x.1 i + ieff (init k) i

theorem step_char (x y : Cfg) (h : Step init x y) :
    oval y.1 = oval x.1 ∧
    (∀ g, y.2.gates g + oposts y.1 g = x.2.gates g + oposts x.1 g) ∧
    (∀ j, y.2.done j = false → (j ∈ onces y.1 ↔ j ∈ onces x.1)) ∧
    (Quiet x y ∨ ∃ k, Fires init k x y) := by
  induction h with
  | add c k s =>
    refine ⟨rfl, fun g => rfl, fun j _ => Iff.rfl, Or.inl ⟨rfl, rfl, fun i => ?_⟩⟩
    simp only [odelta, Store.bump]
    split <;> omega
  | post g n s =>
    refine ⟨rfl, fun i => ?_, fun j _ => Iff.rfl, Or.inl ⟨rfl, rfl, fun i => rfl⟩⟩
    simp only [oposts, Gates.bump]
    split <;> omega
  | onceRun k s hd =>
    refine ⟨rfl, fun g => rfl, fun j hj => ?_, Or.inr ⟨k, hd, by simp [onces], rfl, rfl, fun i => ?_⟩⟩
    · have : j ≠ k := by rintro rfl; simp [St.fire] at hj
      simp [onces, this]
    · simp [odelta, St.fire, applyInit_eq]
  | onceSkip k s hd =>
    refine ⟨rfl, fun g => rfl, fun j hj => ?_, Or.inl ⟨rfl, rfl, fun i => rfl⟩⟩
    have : j ≠ k := by rintro rfl; simp [hd] at hj
    simp [onces, this]
  | await _ _ _ _ | seqDone _ _ _ | fork _ _ _ | join _ _ _ =>
    exact ⟨by simp [oval], fun g => by simp [oposts], fun j _ => by simp [onces],
      Or.inl ⟨rfl, rfl, fun i => by simp [odelta]⟩⟩
  -- value, remaining adds and posts are sums, the mentioned controls a union over the two
  -- components: the moving component's share changes, the other's stays
  | seqL _ _ _ _ _ _ ih | seqR _ _ _ _ _ _ ih | parL _ _ _ _ _ _ ih | parR _ _ _ _ _ _ ih =>
    obtain ⟨h1, h2, h3, h4⟩ := ih
    simp only [Quiet, Fires, oval, odelta, oposts, onces, List.mem_append] at *
    refine ⟨by omega, fun g => by have := h2 g; omega, fun j hj => by rw [h3 j hj], ?_⟩
    rcases h4 with ⟨q1, q2, q3⟩ | ⟨k, f1, f2, f3, f4, f5⟩
    · exact Or.inl ⟨q1, q2, fun i => by have := q3 i; omega⟩
    · exact Or.inr ⟨k, f1, by simp [f2], f3, f4, fun i => by have := f5 i; omega⟩

/-- the once-controls: `done ∪ mentioned` is invariant, `done` only grows, and the run counter of a
    control grows exactly when the control becomes done -/
theorem step_done (x y : Cfg) (h : Step init x y) :
    (∀ k, (y.2.done k || decide (k ∈ onces y.1)) = (x.2.done k || decide (k ∈ onces x.1))) ∧
    (∀ k, x.2.done k = true → y.2.done k = true) ∧
    (∀ k, y.2.runs k = x.2.runs k + (if y.2.done k && !x.2.done k then 1 else 0)) := by
  obtain ⟨_, _, h3, h4⟩ := step_char x y h
  rcases h4 with ⟨q1, q2, _⟩ | ⟨k, f1, f2, f3, f4, _⟩
  · rw [q1] at h3
    refine ⟨fun k => ?_, fun k hk => q1 ▸ hk, fun k => by simp [q1, q2]⟩
    cases hd : x.2.done k
    · simp [q1, hd, h3 k hd]
    · simp [q1, hd]
  · refine ⟨fun j => ?_, fun j hj => by simp [f3, hj], fun j => ?_⟩
    · by_cases e : j = k
      · subst e; simp [f3, f2]
      · cases hd : x.2.done j
        · simp [f3, e, hd, h3 j (by simp [f3, e, hd])]
        · simp [f3, e, hd]
    · by_cases e : j = k
      · subst e; simp [f3, f4, f1]
      · simp [f3, f4, e]

/-- `done` only grows (`x ≤ y ≤ z`): what became done between `x` and `z` did so either between
    `x` and `y` or between `y` and `z` -/
theorem done_split {x y z : Bool} (hxy : x = true → y = true) (hyz : y = true → z = true) :
    (z && !x) = ((y && !x) || (z && !y)) ∧
    (if z && !x then 1 else 0 : Nat) = (if y && !x then 1 else 0) + (if z && !y then 1 else 0) := by
  cases x <;> cases y <;> cases z <;> simp_all

/-- along an execution: the value, `gates + oposts` and `done ∪ mentioned` are invariant; `done`
    only grows, the run counter of a control grows exactly when it becomes done, and
    `counters + odelta` grows by the routines of the controls that became done (`L`: any
    duplicate-free list holding them) -/
theorem steps_char (x y : Cfg) (h : Steps init x y) :
    oval y.1 = oval x.1 ∧
    (∀ g, y.2.gates g + oposts y.1 g = x.2.gates g + oposts x.1 g) ∧
    (∀ L : List Nat, L.Nodup → (∀ k, y.2.done k = true → x.2.done k = false → k ∈ L) →
      ∀ i, y.2.cnt i + odelta y.1 i =
        x.2.cnt i + odelta x.1 i + initSum init (fun k => y.2.done k && !x.2.done k) L i) ∧
    (∀ k, (y.2.done k || decide (k ∈ onces y.1)) = (x.2.done k || decide (k ∈ onces x.1))) ∧
    (∀ k, x.2.done k = true → y.2.done k = true) ∧
    (∀ k, y.2.runs k = x.2.runs k + (if y.2.done k && !x.2.done k then 1 else 0)) := by
  induction h with
  | refl x =>
    exact ⟨rfl, fun _ => rfl, fun L _ _ i => by rw [initSum_none _ L (by simp)]; omega,
      fun _ => rfl, fun _ h => h, fun k => by simp⟩
  | cons x y z hxy _ ih =>
    obtain ⟨a1, a2, _, a4⟩ := step_char x y hxy
    obtain ⟨b1, b2, b3⟩ := step_done x y hxy
    obtain ⟨c1, c2, c3, c4, c5, c6⟩ := ih
    have mono : ∀ k, y.2.done k = false → x.2.done k = false := fun k hy =>
      Bool.eq_false_iff.mpr fun hx => by simp [b2 k hx] at hy
    refine ⟨c1.trans a1, fun g => (c2 g).trans (a2 g), fun L hn hL i => ?_,
      fun k => (c4 k).trans (b1 k), fun k hk => c5 k (b2 k hk), fun k => ?_⟩
    · have hstep : y.2.cnt i + odelta y.1 i =
          x.2.cnt i + odelta x.1 i + initSum init (fun k => y.2.done k && !x.2.done k) L i := by
        rcases a4 with ⟨q1, _, q3⟩ | ⟨k, f1, _, f3, _, f5⟩
        · rw [q3 i, initSum_none _ L (by simp [q1])]
          omega
        · rw [f5 i, initSum_congr _ (fun j => decide (j = k)) L (fun j _ => by
              by_cases e : j = k
              · subst e; simp [f3, f1]
              · simp [f3, e]),
            initSum_single k L hn (hL k (c5 k (by simp [f3])) f1)]
      -- the controls done between `x` and `z` are those done by the step and those done after it
      rw [c3 L hn (fun k hz hy => hL k hz (mono k hy)) i, hstep,
        initSum_congr (fun k => z.2.done k && !x.2.done k)
          (fun k => (y.2.done k && !x.2.done k) || (z.2.done k && !y.2.done k)) L
          (fun k _ => (done_split (b2 k) (c5 k)).1),
        initSum_or _ _ L (fun k _ => by cases y.2.done k <;> simp)]
      omega
    · rw [c6 k, b3 k, (done_split (b2 k) (c5 k)).2]
      omega

theorem steps_trans (x y z : Cfg) (h1 : Steps init x y) (h2 : Steps init y z) : Steps init x z := by
  induction h1 with
  | refl x => exact h2
  | cons a b c hab _ ih => exact Steps.cons a b z hab (ih h2)

theorem step_size (x y : Cfg) (h : Step init x y) : osize y.1 < osize x.1 := by
  induction h <;> simp [osize] at * <;> omega

theorem steps_length (x y : Cfg) (h : Steps init x y) : osize y.1 ≤ osize x.1 := by
  induction h with
  | refl x => exact Nat.le_refl _
  | cons x y z hxy _ ih => have := step_size x y hxy; omega

theorem no_infinite_run (f : Nat → Cfg) (h : ∀ n, Step init (f n) (f (n + 1))) : False :=
  PthProg.no_infinite_descent (Step init) (osize ·.1) step_size f h

/-- a term is finished, or blocked (every remaining thread at an `await` below its threshold), or
    it can move; a `once` can always move -/
theorem progress (p : OProg) (s : St) :
    (∃ v, p = .ret v) ∨ Blocked s.gates p ∨ ∃ y, Step init (p, s) y := by
  induction p with
  | ret v => exact Or.inl ⟨v, rfl⟩
  | add c k => exact Or.inr (Or.inr ⟨_, Step.add c k s⟩)
  | post g n => exact Or.inr (Or.inr ⟨_, Step.post g n s⟩)
  | once k =>
    cases hd : s.done k
    · exact Or.inr (Or.inr ⟨_, Step.onceRun k s hd⟩)
    · exact Or.inr (Or.inr ⟨_, Step.onceSkip k s hd⟩)
  | await g n =>
    by_cases hg : n ≤ s.gates g
    · exact Or.inr (Or.inr ⟨_, Step.await g n s hg⟩)
    · exact Or.inr (Or.inl (Blocked.await g n (by omega)))
  | seq a b iha ihb =>
    right
    rcases iha with ⟨v, rfl⟩ | ha | ⟨⟨a', s'⟩, h⟩
    · rcases ihb with ⟨w, rfl⟩ | hb | ⟨⟨b', s'⟩, h⟩
      · exact Or.inr ⟨_, Step.seqDone v w s⟩
      · exact Or.inl (Blocked.seqR v b hb)
      · exact Or.inr ⟨_, Step.seqR v b b' s s' h⟩
    · exact Or.inl (Blocked.seqL a b ha)
    · exact Or.inr ⟨_, Step.seqL a a' b s s' h⟩
  | fork c b _ _ => exact Or.inr (Or.inr ⟨_, Step.fork c b s⟩)
  | par c b ihc ihb =>
    right
    rcases ihc with ⟨v, rfl⟩ | hc | ⟨⟨c', s'⟩, h⟩
    · rcases ihb with ⟨w, rfl⟩ | hb | ⟨⟨b', s'⟩, h⟩
      · exact Or.inr ⟨_, Step.join v w s⟩
      · exact Or.inl (Blocked.parR v b hb)
      · exact Or.inr ⟨_, Step.parR _ b b' s s' h⟩
    · rcases ihb with ⟨w, rfl⟩ | hb | ⟨⟨b', s'⟩, h⟩
      · exact Or.inl (Blocked.parL c w hc)
      · exact Or.inl (Blocked.parLR c b hc hb)
      · exact Or.inr ⟨_, Step.parR _ b b' s s' h⟩
    · exact Or.inr ⟨_, Step.parL c c' b s s' h⟩

theorem ret_no_step (v : Int) (s : St) (y : Cfg) : ¬ Step init (.ret v, s) y := by
  intro h; cases h

theorem blocked_not_ret (γ : Gates) (v : Int) : ¬ Blocked γ (.ret v) := by
  intro h; cases h

/-- conversely, a blocked term has no step -/
theorem blocked_no_step (p : OProg) (s : St) (hb : Blocked s.gates p) (y : Cfg) :
    ¬ Step init (p, s) y := by
  induction hb generalizing y with
  | await g n hlt => intro h; cases h; omega
  | seqL a b hbl ih =>
    intro h
    cases h with
    | seqL _ a' _ _ s' h1 => exact ih _ h1
    | seqR v _ b' _ s' h1 => cases hbl
    | seqDone v w => cases hbl
  | seqR v b hbl ih =>
    intro h
    cases h with
    | seqL _ a' _ _ s' h1 => exact ret_no_step _ _ _ h1
    | seqR _ _ b' _ s' h1 => exact ih _ h1
    | seqDone _ w => cases hbl
  | parLR c b hbc hbb ihc ihb =>
    intro h
    cases h with
    | parL _ c' _ _ s' h1 => exact ihc _ h1
    | parR _ _ b' _ s' h1 => exact ihb _ h1
    | join v w => cases hbc
  | parL c w hbl ih =>
    intro h
    cases h with
    | parL _ c' _ _ s' h1 => exact ih _ h1
    | parR _ _ b' _ s' h1 => exact ret_no_step _ _ _ h1
    | join v _ => cases hbl
  | parR v b hbl ih =>
    intro h
    cases h with
    | parL _ c' _ _ s' h1 => exact ret_no_step _ _ _ h1
    | parR _ _ b' _ s' h1 => exact ih _ h1
    | join _ w => cases hbl

end MythVerif.PthOnce
