import MythVerif.Model.JoinCounter
import MythVerif.Proofs.JcArith
/-! Inductive invariant of the join-counter model (any `N ≥ 0`, any number of threads) and its
preservation `inv_step`.  The invariant is cut into `Glob` (no program counter read) and one `At` per
thread; a step re-proves `At` for the thread it moves and passes the others through `At.frame`. -/
namespace MythVerif.JoinCounter
open MythVerif.JcArith

structure Inv (N : Nat) (s : St) : Prop where
  dN    : decsOf N s.state ≤ N
  annM  : ∀ t, t ∈ s.anns ↔ annPc (s.pc t) = true
  annN  : s.anns.Nodup
  qA    : ∀ t, t ∈ s.q → s.pc t = .asleep
  qN    : s.q.Nodup
  wkA   : ∀ t, t ∈ s.wk → s.pc t = .asleep
  wkN   : s.wk.Nodup
  qw    : ∀ t, t ∈ s.q → t ∉ s.wk
  asl   : ∀ t, s.pc t = .asleep → t ∈ s.q ∨ t ∈ s.wk
  ldrI  : ∀ t, ldrPc (s.pc t) = true ↔ s.ldr = some t
  -- before the last decrement: the waiter field counts the announced and the queued, nothing is released yet
  pre   : decsOf N s.state < N → waitersOf N s.state = s.anns.length + s.q.length ∧ s.wk = [] ∧ s.ldr = none ∧
            s.pushes = 0 ∧ s.rets = 0
  wok   : ∀ t, s.pc t = .woken → decsOf N s.state = N
  fin   : decsOf N s.state = N → s.ldr = none → s.anns = [] ∧ s.q = [] ∧ s.wk = []  -- release over: nobody left behind
  ddq   : ∀ t k acc, s.pc t = .ddeq k acc → s.wk = acc ∧ k = s.anns.length + s.q.length ∧ 1 ≤ k
  dpu   : ∀ t rem, s.pc t = .dpush rem → s.wk = rem ∧ rem ≠ [] ∧ s.anns = [] ∧ s.q = []
  wrC   : ∀ t v, s.pc t = .wr v → decsOf N v ≠ N
  drC   : ∀ t v, s.pc t = .dr v → decsOf N v < N
  noAf  : ∀ t, s.pc t ≠ .afail
  -- during and after the release every counted waiter is pushed, about to be pushed, or still to be dequeued
  acct  : decsOf N s.state = N → s.pushes + s.wk.length + s.anns.length + s.q.length = waitersOf N s.state
  ndE   : s.ndec = decsOf N s.state

theorem d0 (N : Nat) : decsOf N 0 = 0 ∧ waitersOf N 0 = 0 := by
  rw [decsOf_eq, waitersOf_eq]; simp

theorem inv_init (N : Nat) : Inv N init := by
  have := d0 N
  constructor <;> simp [init, annPc, ldrPc, this.1, this.2]

/-- what the last decrementer's program counter records of its release -/
def Rel (s : St) (pc : PC) : Prop :=
  (∀ k acc, pc = .ddeq k acc → s.wk = acc ∧ k = s.anns.length + s.q.length ∧ 1 ≤ k) ∧
  ∀ rem, pc = .dpush rem → s.wk = rem ∧ rem ≠ [] ∧ s.anns = [] ∧ s.q = []

/-- the clauses of `Inv` that speak about one thread `u`, with its program counter as a parameter -/
structure At (N : Nat) (s : St) (u : Tid) (pc : PC) : Prop where
  annM  : u ∈ s.anns ↔ annPc pc = true
  qA    : u ∈ s.q → pc = .asleep
  wkA   : u ∈ s.wk → pc = .asleep
  asl   : pc = .asleep → u ∈ s.q ∨ u ∈ s.wk
  ldrI  : ldrPc pc = true ↔ s.ldr = some u
  wok   : pc = .woken → decsOf N s.state = N
  rel   : ldrPc pc = true → Rel s pc
  wrC   : ∀ v, pc = .wr v → decsOf N v ≠ N
  drC   : ∀ v, pc = .dr v → decsOf N v < N
  noAf  : pc ≠ .afail

structure Glob (N : Nat) (s : St) : Prop where
  dN    : decsOf N s.state ≤ N
  annN  : s.anns.Nodup
  qN    : s.q.Nodup
  wkN   : s.wk.Nodup
  qw    : ∀ t, t ∈ s.q → t ∉ s.wk
  pre   : decsOf N s.state < N → waitersOf N s.state = s.anns.length + s.q.length ∧ s.wk = [] ∧ s.ldr = none ∧
            s.pushes = 0 ∧ s.rets = 0
  fin   : decsOf N s.state = N → s.ldr = none → s.anns = [] ∧ s.q = [] ∧ s.wk = []
  acct  : decsOf N s.state = N → s.pushes + s.wk.length + s.anns.length + s.q.length = waitersOf N s.state
  ndE   : s.ndec = decsOf N s.state

theorem Inv.glob {N s} (h : Inv N s) : Glob N s := { h with }

theorem Inv.at {N s} (h : Inv N s) (u : Tid) : At N s u (s.pc u) :=
  ⟨h.annM u, h.qA u, h.wkA u, h.asl u, h.ldrI u, h.wok u, fun _ => ⟨h.ddq u, h.dpu u⟩, h.wrC u, h.drC u, h.noAf u⟩

theorem Inv.of {N s} (g : Glob N s) (l : ∀ u, At N s u (s.pc u)) : Inv N s :=
  { g with
    annM := fun u => (l u).annM, qA := fun u => (l u).qA, wkA := fun u => (l u).wkA, asl := fun u => (l u).asl,
    ldrI := fun u => (l u).ldrI, wok := fun u => (l u).wok, wrC := fun u => (l u).wrC, drC := fun u => (l u).drC,
    noAf := fun u => (l u).noAf,
    ddq := fun u k acc e => ((l u).rel (by rw [e]; rfl)).1 k acc e,
    dpu := fun u r e => ((l u).rel (by rw [e]; rfl)).2 r e }

theorem at_upd {N s'} {pc : Tid → PC} {t : Tid} {x : PC} (ht : At N s' t x) (ho : ∀ u, u ≠ t → At N s' u (pc u)) :
    ∀ u, At N s' u (upd pc t x u) := by
  intro u
  by_cases hu : u = t
  · subst hu; rw [upd_same]; exact ht
  · rw [upd_other _ _ _ _ hu]; exact ho u hu

/-- A step changes what the invariant says of a thread `u` that keeps its program counter only through
    `u`'s being announced, being queued or dequeued, through `ldr` and through "all decrements seen". -/
theorem At.frame {N s s' u p} (a : At N s u p) (hr : ldrPc p = true → Rel s' p)
    (ha : u ∈ s'.anns ↔ u ∈ s.anns) (hq : u ∈ s'.q ∨ u ∈ s'.wk ↔ u ∈ s.q ∨ u ∈ s.wk)
    (hl : s'.ldr = some u ↔ s.ldr = some u) (hd : decsOf N s.state = N → decsOf N s'.state = N) : At N s' u p :=
  have hs : u ∈ s'.q ∨ u ∈ s'.wk → p = .asleep := fun m => (hq.mp m).elim a.qA a.wkA
  ⟨ha.trans a.annM, fun m => hs (.inl m), fun m => hs (.inr m), fun e => hq.mpr (a.asl e),
   a.ldrI.trans hl.symm, fun e => hd (a.wok e), hr, a.wrC, a.drC, a.noAf⟩

/-- a thread that holds nothing: in none of the lists and not releasing -/
theorem At.out {N s u p} (a : At N s u p) (hp : annPc p = false ∧ ldrPc p = false ∧ p ≠ .asleep) :
    u ∉ s.anns ∧ u ∉ s.q ∧ u ∉ s.wk ∧ s.ldr ≠ some u :=
  ⟨fun m => (nomatch hp.1.symm.trans (a.annM.mp m)), fun m => hp.2.2 (a.qA m), fun m => hp.2.2 (a.wkA m),
   fun e => nomatch hp.2.1.symm.trans (a.ldrI.mpr e)⟩

/- `no_ldr` and the second part of `rel` conclude an arbitrary `X`: a thread that is not releasing owes
   no `Rel`, so they are passed as the argument `hr : ldrPc p = true → Rel s' p` of `At.frame` as they stand. -/
theorem Inv.no_ldr {N s} (h : Inv N s) (hl : s.ldr = none) (u : Tid) {X : Prop} (e : ldrPc (s.pc u) = true) : X := by
  have := (h.ldrI u).mp e; rw [hl] at this; cases this

/-- while a release is in progress all decrements have been seen and nobody else is releasing -/
theorem Inv.rel {N s} (h : Inv N s) {t : Tid} (hl : s.ldr = some t) :
    decsOf N s.state = N ∧ ∀ u, u ≠ t → ∀ {X : Prop}, ldrPc (s.pc u) = true → X := by
  refine ⟨Classical.byContradiction fun e => ?_, fun u hu _ e => ?_⟩
  · have := (h.pre (Nat.lt_of_le_of_ne h.dN e)).2.2.1; rw [hl] at this; cases this
  · have := (h.ldrI u).mp e; rw [hl] at this; cases this; exact absurd rfl hu

/-- a step that moves one program counter and, once all decrements are seen, may count a return -/
theorem Inv.move {N s} (h : Inv N s) {t : Tid} {x : PC} (hx : At N s t x) (r : Nat)
    (hr : decsOf N s.state < N → r = s.rets) : Inv N { s with pc := upd s.pc t x, rets := r } :=
  Inv.of { h.glob with pre := fun hlt => by rw [hr hlt]; exact h.pre hlt } (at_upd { hx with } fun u _ => { h.at u with })

/-- program counters of a thread that is in no queue, is not releasing and has not been resumed -/
def quietPc : PC → Bool
  | .asleep | .woken | .afail | .ddeq _ _ | .dpush _ => false
  | _ => true

/-- a move to a quiet program counter that keeps the thread's announcement -/
theorem At.quiet {N s t p} (a : At N s t p) (x : PC) (hp : ldrPc p = false ∧ p ≠ .asleep) (hx : quietPc x = true)
    (ha : annPc x = annPc p) (hwr : ∀ v, x = .wr v → decsOf N v ≠ N) (hdr : ∀ v, x = .dr v → decsOf N v < N) :
    At N s t x := by
  have hx : ldrPc x = false ∧ x ≠ .asleep ∧ x ≠ .afail ∧ x ≠ .woken := by cases x <;> simp [quietPc, ldrPc] at hx ⊢
  exact ⟨by rw [ha]; exact a.annM, fun m => absurd (a.qA m) hp.2, fun m => absurd (a.wkA m) hp.2,
    fun e => absurd e hx.2.1, by rw [hx.1, ← hp.1]; exact a.ldrI, fun e => absurd e hx.2.2.2,
    fun e => (nomatch hx.1.symm.trans e), hwr, hdr, hx.2.2.1⟩

theorem inv_step (N : Nat) (s s' : St) (l : Lbl) (h : Inv N s) (hs : step N s l = some s') : Inv N s' := by
  cases l with
  | blockBegin t =>
    simp only [step] at hs
    split at hs <;> cases hs
    rename_i hpc
    have a := h.at t; rw [hpc] at a
    exact h.move (a.quiet .annSw ⟨rfl, nofun⟩ rfl rfl nofun nofun) _ fun _ => rfl
  | waitRead t v =>
    simp only [step] at hs
    split at hs
    · rename_i hv; subst hv
      have a := h.at t
      split at hs
      · rename_i hpc
        have hp : annPc (s.pc t) = false ∧ ldrPc (s.pc t) = false ∧ s.pc t ≠ .asleep := by
          rcases hpc with e | e <;> simp [e, annPc, ldrPc]
        split at hs <;> cases hs
        · rename_i hd
          exact h.move (a.quiet .idle hp.2 rfl hp.1.symm nofun nofun) _ fun hlt => by omega
        · rename_i hd
          exact h.move (a.quiet (.wr s.state) hp.2 rfl hp.1.symm (fun _ e => by cases e; exact hd) nofun) _
            fun _ => rfl
      · split at hs
        · rename_i hpc; rw [hpc] at a
          split at hs <;> cases hs
          · rename_i hd
            exact h.move (a.quiet .idle ⟨rfl, nofun⟩ rfl rfl nofun nofun) _ fun hlt => by omega
          · rename_i hd; exact absurd (a.wok rfl) hd
        · cases hs
    · cases hs
  | decRead t v =>
    simp only [step] at hs
    split at hs
    · rename_i hc
      have hp : annPc (s.pc t) = false ∧ ldrPc (s.pc t) = false ∧ s.pc t ≠ .asleep := by
        rcases hc.2 with e | e <;> simp [e, annPc, ldrPc]
      split at hs <;> cases hs
      · exact h.move ((h.at t).quiet .dexit hp.2 rfl hp.1.symm nofun nofun) _ fun _ => rfl
      · rename_i hd
        refine h.move ?_ _ fun _ => rfl
        exact (h.at t).quiet (.dr v) hp.2 rfl hp.1.symm nofun fun _ e => by cases e; omega
    · cases hs
  | wakeSpin t =>
    simp only [step] at hs
    split at hs
    · split at hs <;> cases hs
      exact h
    · cases hs
  | waitCas t ok =>
    simp only [step] at hs
    split at hs
    · rename_i v hpc
      have a := h.at t; rw [hpc] at a
      split at hs
      · rename_i hc
        split at hs <;> cases hs
        · -- the CAS succeeded: `v` is the current word, whose decrement field is not N, so no release has begun
          rename_i hok; subst hok
          simp at hc; subst hc
          have hlt : decsOf N s.state < N := Nat.lt_of_le_of_ne h.dN (a.wrC _ rfl)
          obtain ⟨hW, hwk, hl, hp, hr⟩ := h.pre hlt
          obtain ⟨hf1, hf2⟩ := wait_step_fields N s.state
          obtain ⟨hta, htq, htw, htl⟩ := a.out ⟨rfl, rfl, nofun⟩
          refine Inv.of { h.glob with dN := ?_, annN := List.nodup_cons.mpr ⟨hta, h.annN⟩, pre := fun _ => ⟨?_, hwk, hl, hp, hr⟩,
                                      fin := ?_, acct := ?_, ndE := ?_ }
            (at_upd ?_ fun u hu => (h.at u).frame (h.no_ldr hl u) (by simp [hu])
              Iff.rfl Iff.rfl fun e => ?_)
          all_goals try rw [hf1]
          · exact h.dN
          · dsimp only; rw [hf2, hW, List.length_cons]; omega
          · omega
          · omega
          · exact h.ndE
          · constructor <;> simp [annPc, ldrPc, htq, htw, htl]
          · exact e
        · exact h.move (a.quiet .wretry ⟨rfl, nofun⟩ rfl rfl nofun nofun) _ fun _ => rfl
      · cases hs
    · cases hs
  | cbEnq t =>
    simp only [step] at hs
    split at hs <;> cases hs
    rename_i hpc
    have a := h.at t; rw [hpc] at a
    have hta : t ∈ s.anns := a.annM.mpr rfl
    have htq : t ∉ s.q := fun m => nomatch a.qA m
    have htl : s.ldr ≠ some t := fun e => nomatch a.ldrI.mpr e
    have hlen : (s.anns.erase t).length + (s.q ++ [t]).length = s.anns.length + s.q.length := by
      rw [List.length_erase_of_mem hta, List.length_append, List.length_singleton]
      have := List.length_pos_of_mem hta; omega
    have hmem := fun u => h.annN.mem_erase_iff (a := u) (b := t)
    refine Inv.of { h.glob with annN := h.annN.erase t, qN := ?_, qw := ?_, pre := ?_, fin := ?_, acct := ?_ }
      (at_upd ?_ fun u hu => (h.at u).frame ?_ (by simp [hmem, hu]) (by simp [hu]) Iff.rfl id)
    all_goals try dsimp only
    · have := h.qN; grind [List.nodup_append]
    · intro u hm; have := h.qw u; have htw : t ∉ s.wk := fun m => nomatch a.wkA m; grind
    · intro hlt; obtain ⟨hW, r⟩ := h.pre hlt; exact ⟨by omega, r⟩
    · intro e hl; rw [(h.fin e hl).1] at hta; cases hta
    · intro e; have := h.acct e; omega
    · constructor <;> simp [annPc, ldrPc, hmem, htl]
    · intro e
      obtain ⟨r1, r2⟩ := (h.at u).rel e
      refine ⟨fun k acc e => ?_, fun r e => ?_⟩
      · obtain ⟨x, y, z⟩ := r1 k acc e; exact ⟨x, by dsimp only; omega, z⟩
      · rw [(r2 r e).2.2.1] at hta; cases hta
  | decCas t ok =>
    simp only [step] at hs
    split at hs
    · rename_i v hpc
      have a := h.at t; rw [hpc] at a
      split at hs
      · rename_i hc
        split at hs
        · rename_i hok; subst hok
          simp at hc; subst hc
          have hlt := a.drC _ rfl
          obtain ⟨hW, hwk, hl, hp, hr⟩ := h.pre hlt
          obtain ⟨hf1, hf2⟩ := dec_step_fields N s.state hlt
          obtain ⟨hta, htq, htw, htl⟩ := a.out ⟨rfl, rfl, nofun⟩
          -- whoever is not the last, or is the last with nobody waiting, just leaves
          have leave : (decsOf N s.state + 1 = N → waitersOf N s.state = 0) →
              Inv N { s with state := s.state + 1, pc := upd s.pc t .idle, ndec := s.ndec + 1 } := fun hw0 => by
            refine Inv.of { h.glob with dN := ?_, pre := fun _ => ⟨?_, hwk, hl, hp, hr⟩, fin := ?_, acct := ?_, ndE := ?_ }
              (at_upd ?_ fun u hu => (h.at u).frame (h.no_ldr hl u) Iff.rfl Iff.rfl Iff.rfl fun e => ?_)
            all_goals try dsimp only
            all_goals try rw [hf2]
            · omega
            · rw [hf1]; exact hW
            · intro e _; have := hw0 e
              exact ⟨List.eq_nil_of_length_eq_zero (by omega), List.eq_nil_of_length_eq_zero (by omega), hwk⟩
            · intro _; rw [hf1, hW, hp, hwk]; simp
            · rw [h.ndE]
            · exact (a.quiet .idle ⟨rfl, nofun⟩ rfl rfl nofun nofun).frame nofun Iff.rfl Iff.rfl Iff.rfl fun e => by omega
            · omega
          split at hs
          · split at hs <;> cases hs
            · rename_i hw0; exact leave fun _ => hw0
            · refine Inv.of { h.glob with dN := ?_, pre := ?_, fin := fun _ e => (nomatch e), acct := ?_, ndE := ?_ }
                (at_upd ?_ fun u hu => (h.at u).frame (h.no_ldr hl u) Iff.rfl Iff.rfl (by simp [hl, Ne.symm hu]) fun e => ?_)
              all_goals try dsimp only
              all_goals try rw [hf2]
              · omega
              · omega
              · rw [hf1, hwk, hp, hW]; simp
              · rw [h.ndE]
              · constructor <;> simp [annPc, ldrPc, Rel, hta, htq, hwk, hW]
                omega
              · omega
          · rename_i hne; cases hs; exact leave fun e => absurd e hne
        · cases hs
          exact h.move (a.quiet .dretry ⟨rfl, nofun⟩ rfl rfl nofun nofun) _ fun _ => rfl
      · cases hs
    · cases hs
  | wakeDeq t x =>
    simp only [step] at hs
    split at hs
    · rename_i k acc hpc
      have a := h.at t; rw [hpc] at a
      split at hs
      · rename_i y rest hq
        split at hs <;> cases hs
        rename_i hxy; subst hxy
        obtain ⟨rfl, hk, _⟩ := (a.rel rfl).1 _ _ rfl
        have hl := a.ldrI.mp rfl
        obtain ⟨hD, hnl⟩ := h.rel hl
        have hacct := h.acct hD
        have hqN := h.qN
        have hqw := h.qw x
        rw [hq] at hk hacct hqN hqw
        rw [List.length_cons] at hk hacct
        obtain ⟨hxr, hrN⟩ := List.nodup_cons.mp hqN
        have hxw := hqw (List.mem_cons_self ..)
        have htx : t ≠ x := fun e => nomatch a.qA (by rw [hq, e]; exact List.mem_cons_self ..)
        refine Inv.of { h.glob with qN := hrN, wkN := ?_, qw := ?_, pre := ?_, fin := fun _ e => ?_, acct := fun _ => ?_ }
          (at_upd ?_ fun u hu => (h.at u).frame (hnl u hu) Iff.rfl ?_ Iff.rfl id)
        all_goals try dsimp only
        · have := h.wkN; grind [List.nodup_append]
        · intro u hu; have := h.qw u; grind
        · omega
        · rw [hl] at e; cases e
        · rw [List.length_append, List.length_singleton]; omega
        · have hta : t ∉ s.anns := fun m => nomatch a.annM.mp m
          have htq : t ∉ rest := fun m => nomatch a.qA (by rw [hq]; exact List.mem_cons_of_mem _ m)
          have htw : t ∉ s.wk := fun m => nomatch a.wkA m
          by_cases hk0 : k = 0
          · have ha0 : s.anns = [] := List.eq_nil_of_length_eq_zero (by omega)
            have hr0 : rest = [] := List.eq_nil_of_length_eq_zero (by omega)
            rw [if_pos hk0]
            constructor <;> simp [annPc, ldrPc, Rel, htw, htx, hl, ha0, hr0]
          · rw [if_neg hk0]
            constructor <;> simp [annPc, ldrPc, Rel, hta, htq, htw, htx, hl]
            omega
        · rw [hq]; grind
      · cases hs
    · cases hs
  | wakePush t x =>
    simp only [step] at hs
    split at hs
    · rename_i y rem hpc
      have a := h.at t; rw [hpc] at a
      split at hs <;> cases hs
      rename_i hxy; subst hxy
      obtain ⟨hwk, _, ha0, hq0⟩ := (a.rel rfl).2 _ rfl
      have hl := a.ldrI.mp rfl
      obtain ⟨hD, hnl⟩ := h.rel hl
      have hacct := h.acct hD
      have hwN := h.wkN
      rw [hwk] at hacct hwN
      rw [List.length_cons] at hacct
      obtain ⟨hxr, hrN⟩ := List.nodup_cons.mp hwN
      have her : s.wk.erase x = rem := by rw [hwk]; simp
      have htx : t ≠ x := fun e => nomatch a.wkA (by rw [hwk, e]; exact List.mem_cons_self ..)
      have hl' : ∀ u, u ≠ t → (if rem = [] then none else s.ldr) ≠ some u := fun u hu e => by
        split at e
        · cases e
        · rw [hl] at e; cases e; exact hu rfl
      refine Inv.of { h.glob with wkN := ?_, qw := ?_, pre := ?_, fin := fun _ e => ⟨ha0, hq0, ?_⟩, acct := fun _ => ?_ }
        (at_upd ?_ fun u hu => ?_)
      all_goals try dsimp only
      all_goals try rw [her]
      · exact hrN
      · intro u m; rw [hq0] at m; cases m
      · omega
      · dsimp only at e; split at e
        · assumption
        · rw [hl] at e; cases e
      · omega
      · have hta : t ∉ s.anns := fun m => nomatch a.annM.mp m
        have htr : t ∉ rem := fun m => nomatch a.wkA (by rw [hwk]; exact List.mem_cons_of_mem _ m)
        by_cases hr : rem = []
        · simp only [if_pos hr]
          constructor <;> simp [annPc, ldrPc, hta, hq0, hr]
        · simp only [if_neg hr]
          constructor <;> simp [annPc, ldrPc, Rel, hq0, ha0, hr, htr, hl]
      · by_cases hux : u = x
        · subst hux; rw [upd_same]
          constructor <;> simp [annPc, ldrPc, ha0, hq0, hxr, hD, hl' u hu]
        · rw [upd_other _ _ _ _ hux]
          exact (h.at u).frame (hnl u hu) Iff.rfl (by rw [hwk]; simp [hux])
            (by simp [hl, Ne.symm hu]) id
    · cases hs

end MythVerif.JoinCounter
