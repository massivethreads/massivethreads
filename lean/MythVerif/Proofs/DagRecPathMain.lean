import MythVerif.Proofs.DagRecPathEst
/-!
The latest earliest-finish time `maxFinish` over the intervals of an execution is the weight of a
longest path of its dependency graph (`depGraph`): the recorder's `est` is a feasible potential
(`feasT`), and every interval but the first has a TIGHT incoming edge, an edge `u → j` with
`est u + dur u = est j` (`tightT`: the recorder's `est` is the maximum over the predecessors), so
that walking tight edges backwards from the interval that finishes last reaches the first interval.
-/
namespace MythVerif.DagRec
open MythVerif.PiDag (PEdge)

theorem natMax_eq_right {a b : Nat} (h : a ≤ b) : Nat.max a b = b := by
  simp only [Nat.max_def]; split <;> omega

theorem natMax_eq_left {a b : Nat} (h : b ≤ a) : Nat.max a b = a := by
  simp only [Nat.max_def]; split <;> omega

/-! ### the last interval of a task finishes at `est + t_inf` of the task -/

theorem chainFinish_nosub : ∀ (xs : List View), (∀ x ∈ xs, x.sub = 0) → ∀ e, chainFinish e xs = e + sumTinf xs
  | [], _, e => by simp [chainFinish, sumTinf]
  | x :: r, h, e => by
    have h1 := h x (by simp)
    have ih := chainFinish_nosub r (fun y hy => h y (by simp [hy])) (e + x.i.c.tinf)
    simp only [chainFinish, sumTinf, h1, ih, Nat.max_def]
    split <;> omega

theorem sub_of_item_true (v : Variant) (x : Tree) (c : Cursor) (h : wnItem true x = true) :
    (viewTree v x c).1.sub = 0 := by
  cases x with
  | ival k r => exact sub_ival v k r c
  | create _ _ => simp [wnItem] at h
  | group k f => exact sub_group v k f c

/-- the children of a task are sections and `other` / `end` intervals: no created task hangs off them -/
theorem task_views_nosub (v : Variant) : ∀ (f : Forest) (c : Cursor), wnForest true f = true →
    ∀ x ∈ (viewForest v f c).1, x.sub = 0
  | .nil, _, h => by simp [wnForest] at h
  | .cons t .nil, c, h => by
    simp only [wnForest] at h
    obtain ⟨k, r, rfl⟩ := isLast_ival h
    intro x hx
    simp only [viewForest, List.mem_cons, List.not_mem_nil, or_false] at hx
    subst hx
    exact sub_ival v k r c
  | .cons t (.cons t' r), c, h => by
    simp only [wnForest, Bool.and_eq_true] at h
    intro x hx
    rw [viewForest_cons, List.mem_cons] at hx
    rcases hx with rfl | hx
    · exact sub_of_item_true v t c h.1
    · exact task_views_nosub v (.cons t' r) _ h.2 x hx

/-- the last interval of a section / task finishes at `est` + the sum of the children's `t_inf` -/
theorem lastF_finish (v : Variant) (E D : Nat → Nat) : ∀ (f : Forest) (o d : Nat) (c : Cursor) (b : Bool),
    wnForest b f = true → Agree E D o (leafInfosForest v f c) →
    E (lastF f o d) + D (lastF f o d) = c.est + sumTinf (viewForest v f c).1
  | .nil, _, _, _, _, h, _ => by simp [wnForest] at h
  | .cons x .nil, o, d, c, b, h, ha => by
    simp only [wnForest] at h
    obtain ⟨k, r, rfl⟩ := isLast_ival h
    rw [leafInfosForest_cons] at ha
    have a1 := ha.append.1
    simp only [leafInfosTree] at a1
    obtain ⟨⟨h1, h2⟩, _⟩ := a1.cons
    simp only [lastF, lastT, viewForest, viewTree, sumTinf, h1, h2]
    simp [endInterval]
  | .cons x (.cons y r'), o, d, c, b, h, ha => by
    simp only [wnForest, Bool.and_eq_true] at h
    obtain ⟨_, a2, _⟩ := ha.junction h.1 h.2
    have ih := lastF_finish v E D (.cons y r') (o + (leavesTree x).length) (lastT x o) _ b h.2 a2
    rw [lastF_cons2, ih, viewForest_cons v x, span_next v x c h.1]
    simp only [sumTinf, tinfT]
    omega

theorem tinfT_group (v : Variant) (k : NKind) (f : Forest) (c : Cursor) (b : Bool) (h : wnForest b f = true) :
    tinfT v (.group k f) c = chainFinish 0 (viewForest v f c).1 := by
  simp only [tinfT, viewTree]
  exact accumulate_tinf v k _ (wnForest_views_ne v b f c h)

theorem task_last_finish (v : Variant) (E D : Nat → Nat) (ch : Tree) (o : Nat) (c : Cursor)
    (h : wnTask ch = true) (ha : Agree E D o (leafInfosTree v ch c)) :
    E (lastT ch o) + D (lastT ch o) = c.est + tinfT v ch c := by
  obtain ⟨f, rfl, hf⟩ := wnTask_group h
  simp only [leafInfosTree] at ha
  rw [tinfT_group v _ f c true hf, chainFinish_nosub _ (task_views_nosub v f c hf)]
  simp only [lastT]
  rw [lastF_finish v E D f o o c true hf ha]
  omega

/-! ### the successor of a section starts when the latest of the section's exits finishes -/

theorem sub_create (v : Variant) (r : Raw) (ch : Tree) (c : Cursor) :
    (viewTree v (.create r ch) c).1.sub = tinfT v ch (cursorAfter (endInterval .createTask r c) .create) := by
  simp [viewTree, View.sub, endInterval, tinfT]

/-- either the section's own wait interval or the last interval of one of the tasks it created
    finishes exactly at `chainFinish` (where the successor of the section starts) -/
theorem sec_tight (v : Variant) (E D : Nat → Nat) (t : Nat) : ∀ (f : Forest) (o d : Nat) (c : Cursor),
    wnForest false f = true → Agree E D o (leafInfosForest v f c) →
    (E (lastF f o d) + D (lastF f o d) = chainFinish c.est (viewForest v f c).1) ∨
    (∃ e ∈ createEdgesF t f o, e.v = t ∧ E e.u + D e.u = chainFinish c.est (viewForest v f c).1)
  | .nil, _, _, _, h, _ => by simp [wnForest] at h
  | .cons x .nil, o, d, c, h, ha => by
    left
    have := lastF_finish v E D (.cons x .nil) o d c false h ha
    rw [this]
    simp only [wnForest] at h
    obtain ⟨k, r, rfl⟩ := isLast_ival h
    simp only [viewForest, chainFinish, sumTinf, sub_ival, Nat.max_def]
    split <;> omega
  | .cons x (.cons y r'), o, d, c, h, ha => by
    simp only [wnForest, Bool.and_eq_true] at h
    obtain ⟨a1, a2, _⟩ := ha.junction h.1 h.2
    have ih := sec_tight v E D t (.cons y r') (o + (leavesTree x).length) (lastT x o) _ h.2 a2
    rw [span_next v x c h.1] at ih
    have hge := chainFinish_ge (viewForest v (.cons y r') (viewTree v x c).2).1 (c.est + tinfT v x c)
    rw [lastF_cons2, show chainFinish c.est (viewForest v (.cons x (.cons y r')) c).1 =
        Nat.max (c.est + tinfT v x c + (viewTree v x c).1.sub)
          (chainFinish (c.est + tinfT v x c) (viewForest v (.cons y r') (viewTree v x c).2).1) from by
      rw [viewForest_cons v x, chainFinish]]
    by_cases hm : c.est + tinfT v x c + (viewTree v x c).1.sub ≤
        chainFinish (c.est + tinfT v x c) (viewForest v (.cons y r') (viewTree v x c).2).1
    · -- the latest exit is among the remaining children
      rw [natMax_eq_right hm]
      rcases ih with q | ⟨e, he, q⟩
      · exact .inl q
      · exact .inr ⟨e, by rw [createEdgesF]; simp [he], q⟩
    · -- only a created task can outlast the rest of the section
      cases x with
      | ival k r => rw [sub_ival] at hm; omega
      | group k f' => rw [sub_group] at hm; omega
      | create rr ch =>
        right
        obtain ⟨_, _, b3, b4⟩ := a1.create_finish
        have := task_last_finish v E D ch (o + 1) _ (wnItem_create h.1).2 b3
        refine ⟨⟨.end_, lastT ch (o + 1), t⟩, by simp [createEdgesF, createOfT], rfl, ?_⟩
        simp only
        rw [natMax_eq_left (by omega), this, b4, sub_create]

/-! ### intervals whose incoming edge is emitted further up: the first interval of a created task -/

-- The `create` edge into the first interval of a created task belongs to `sectionEdgesT`, which the group
-- ABOVE the creating section emits (it alone knows where the section's continuation starts).  So below a node `x`
-- an interval has a tight incoming edge among `edgesT x o` or is listed in `pendT x o` (`tightT`); `pendO` lists
-- what one child contributes, `pendF` a forest; a task has nothing pending (`pendF_task`).
def pendO : Tree → Nat → List Nat
  | .create _ _, o => [o + 1]
  | _, _ => []

def pendF : Forest → Nat → List Nat
  | .nil, _ => []
  | .cons x r, o => pendO x o ++ pendF r (o + (leavesTree x).length)

def pendT : Tree → Nat → List Nat
  | .ival _ _, _ => []
  | .create _ _, o => [o + 1]
  | .group k f, o => if k = .section then pendF f o else []

theorem pend_mem (t : Nat) : ∀ (f : Forest) (o j : Nat), j ∈ pendF f o →
    ∃ e ∈ createEdgesF t f o, e.kind = .create ∧ e.v = j
  | .nil, _, _, h => by simp [pendF] at h
  | .cons x r, o, j, h => by
    rw [pendF, List.mem_append] at h
    rcases h with h | h
    · cases x with
      | ival _ _ => simp [pendO] at h
      | group _ _ => simp [pendO] at h
      | create rr ch =>
        simp only [pendO, List.mem_singleton] at h
        exact ⟨⟨.create, o, o + 1⟩, by simp [createEdgesF, createOfT], rfl, h.symm⟩
    · obtain ⟨e, he, q⟩ := pend_mem t r _ j h
      exact ⟨e, by rw [createEdgesF]; simp [he], q⟩

theorem pendF_task : ∀ (f : Forest) (o : Nat), wnForest true f = true → pendF f o = []
  | .nil, _, h => by simp [wnForest] at h
  | .cons x .nil, o, h => by
    simp only [wnForest] at h
    obtain ⟨k, r, rfl⟩ := isLast_ival h
    simp [pendF, pendO]
  | .cons x (.cons y r), o, h => by
    simp only [wnForest, Bool.and_eq_true] at h
    rw [pendF, pendF_task (.cons y r) _ h.2]
    cases x with
    | ival _ _ => simp [pendO]
    | group _ _ => simp [pendO]
    | create _ _ => simp [wnItem] at h

/-- some edge of `es` into `j` is tight -/
def Tight (E D : Nat → Nat) (es : List PEdge) (j : Nat) : Prop := ∃ e ∈ es, e.v = j ∧ E e.u + D e.u = E j

theorem Tight.mono {E D : Nat → Nat} {es es' : List PEdge} {j : Nat} (h : Tight E D es j)
    (hs : ∀ e ∈ es, e ∈ es') : Tight E D es' j := by
  obtain ⟨e, he, q⟩ := h
  exact ⟨e, hs e he, q⟩

mutual
theorem tightT (v : Variant) (E D : Nat → Nat) : ∀ (x : Tree) (o : Nat) (c : Cursor), WnAny x →
    Agree E D o (leafInfosTree v x c) → ∀ j, o < j → j < o + (leavesTree x).length →
    Tight E D (edgesT x o) j ∨ j ∈ pendT x o
  | .ival _ _, o, _, _, _ => by intro j h1 h2; simp [leavesTree] at h2; omega
  | .create r ch, o, c, h, ha => by
    have hch := wnAny_create h
    obtain ⟨_, _, b3, _⟩ := ha.create_finish
    intro j h1 h2
    simp only [leavesTree, List.length_cons] at h2
    by_cases hj : j = o + 1
    · right; simp [pendT, hj]
    · left
      rcases tightT v E D ch (o + 1) _ (wnAny_of_task hch) b3 j (by omega) (by omega) with q | q
      · simpa [edgesT] using q
      · obtain ⟨f, rfl, _⟩ := wnTask_group hch
        simp [pendT] at q
  | .group k f, o, c, h, ha => by
    intro j h1 h2
    simp only [leafInfosTree] at ha
    simp only [leavesTree] at h2
    rcases h with ⟨b, h⟩ | ⟨b, h⟩ | h
    · obtain ⟨rfl, hf⟩ := wnItem_group h
      simpa [edgesT, pendT] using tightF v E D f o c false hf ha j h1 h2
    · simp [isLast] at h
    · simp only [wnTask, Bool.and_eq_true, beq_iff_eq] at h
      obtain ⟨rfl, hf⟩ := h
      have := tightF v E D f o c true hf ha j h1 h2
      rw [pendF_task f o hf] at this
      simpa [edgesT, pendT] using this
theorem tightF (v : Variant) (E D : Nat → Nat) : ∀ (f : Forest) (o : Nat) (c : Cursor) (b : Bool),
    wnForest b f = true → Agree E D o (leafInfosForest v f c) → ∀ j, o < j → j < o + (leavesForest f).length →
    Tight E D (groupEdgesF f o ++ edgesSubF f o) j ∨ j ∈ pendF f o
  | .nil, _, _, _, h, _ => by simp [wnForest] at h
  | .cons x .nil, o, c, b, h, ha => by
    simp only [wnForest] at h
    obtain ⟨k, r, rfl⟩ := isLast_ival h
    intro j h1 h2
    simp [leavesForest, leavesTree] at h2
    omega
  | .cons x (.cons y r'), o, c, b, h, ha => by
    simp only [wnForest, Bool.and_eq_true] at h
    obtain ⟨a1, a2, a3⟩ := ha.junction h.1 h.2
    have hwx := wnAny_of_item h.1
    intro j h1 h2
    rw [leavesForest_cons, List.length_append] at h2
    rw [groupEdgesF_cons2, edgesSubF_cons, pendF]
    rcases Nat.lt_trichotomy j (o + (leavesTree x).length) with hlt | heq | hgt
    · -- inside the first child
      rcases tightT v E D x o c hwx a1 j h1 hlt with q | q
      · left; exact q.mono (fun e he => by simp [he])
      · cases x with
        | ival _ _ => simp [pendT] at q
        | create _ _ => right; simpa [pendT, pendO] using Or.inl q
        | group k f' =>
          left
          obtain ⟨rfl, hf'⟩ := wnItem_group h.1
          simp only [pendT, if_true] at q
          obtain ⟨e, he, hkind, hv⟩ := pend_mem (o + (leavesTree (.group .section f')).length) f' o j q
          rcases createF_ok v E D _ f' o c hf' a1 e he with p | p
          · exact ⟨e, by simp [itemEdgesT, sectionEdgesT, he], hv, by rw [← hv]; exact p.2.2.2.2⟩
          · rw [p.1] at hkind; cases hkind
    · -- the first interval of the successor
      left
      subst heq
      cases x with
      | ival k r =>
        refine ⟨⟨contKindOf (.ival k r), lastT (.ival k r) o, _⟩, by simp [itemEdgesT], rfl, ?_⟩
        simp only [leafInfosTree] at a1
        obtain ⟨⟨e1, e2⟩, _⟩ := a1.cons
        simp only [lastT]
        rw [a3, e1, e2]
        simp [tinfT, viewTree, endInterval]
      | create rr ch =>
        refine ⟨⟨contKindOf (.create rr ch), lastT (.create rr ch) o, _⟩, by simp [itemEdgesT], rfl, ?_⟩
        obtain ⟨e1, e2, _, _⟩ := a1.create_finish
        simp only [lastT]
        rw [a3, e1, e2]
      | group k f' =>
        obtain ⟨rfl, hf'⟩ := wnItem_group h.1
        have hval : E (o + (leavesTree (.group .section f')).length) = chainFinish c.est (viewForest v f' c).1 := by
          rw [a3, tinfT_group v _ f' c false hf', ← chainFinish_zero]
        rcases sec_tight v E D (o + (leavesTree (.group .section f')).length) f' o o c hf' a1 with q | ⟨e, he, q1, q2⟩
        · refine ⟨⟨contKindOf (.group .section f'), lastT (.group .section f') o, _⟩, by simp [itemEdgesT], rfl, ?_⟩
          simp only [lastT]
          rw [q, hval]
        · exact ⟨e, by simp [itemEdgesT, sectionEdgesT, he], q1, by rw [q2, hval]⟩
    · -- inside the remaining children
      rcases tightF v E D (.cons y r') (o + (leavesTree x).length) _ b h.2 a2 j hgt (by omega) with q | q
      · left
        exact q.mono (fun e he => by
          simp only [List.mem_append] at he ⊢
          rcases he with he | he
          · left; right; exact he
          · right; right; exact he)
      · right; simp [q]
end

/-- `m` is the weight of a longest path of `G`: no path is heavier and some path weighs `m` -/
def DepGraph.IsLongestPathWeight (G : DepGraph) (m : Nat) : Prop :=
  (∀ p, G.IsPath p → G.pathWeight p ≤ m) ∧ ∃ p, G.IsPath p ∧ G.pathWeight p = m

theorem DepGraph.IsLongestPathWeight.unique {G : DepGraph} {m m' : Nat}
    (h : G.IsLongestPathWeight m) (h' : G.IsLongestPathWeight m') : m = m' := by
  obtain ⟨p, hp, e⟩ := h.2
  obtain ⟨p', hp', e'⟩ := h'.2
  have := h.1 p' hp'
  have := h'.1 p hp
  omega

/-- every path of the dependency graph weighs at most the latest earliest-finish time, and a path
    from the first interval attains it -/
theorem maxFinish_is_longest_path (v : Variant) (sc : Nat) (t : Tree) (h : wnTask t = true) :
    (∀ p, (depGraph t).IsPath p → (depGraph t).pathWeight p ≤ maxFinish (leafInfosTree v t (rootCursor sc))) ∧
    ∃ p, (depGraph t).IsPath p ∧ p.head? = some 0 ∧
      (depGraph t).pathWeight p = maxFinish (leafInfosTree v t (rootCursor sc)) := by
  let L := leafInfosTree v t (rootCursor sc)
  let E : Nat → Nat := fun u => (L.map (fun i => i.c.est)).getD u 0
  let D : Nat → Nat := fun u => (L.map (fun i => i.c.t1)).getD u 0
  have hw := wnAny_of_task h
  have hag : Agree E D 0 L := by
    intro j hj
    simp [E, D, hj]
  have hwD : ∀ u, (depGraph t).w u = D u := by
    intro u
    simp only [DepGraph.w, depGraph, D, L, leafInfosTree_t1]
  have hn : (depGraph t).n = L.length := by
    simp [DepGraph.n, depGraph, L, leafInfosTree_length]
  have hlen : L.length = (leavesTree t).length := leafInfosTree_length v t _
  have hfe : ∀ e ∈ (depGraph t).edges, EdgeOK E D 0 (0 + (leavesTree t).length) e :=
    fun e he => feasT v E D t 0 (rootCursor sc) hw hag e he
  have hE : ∀ e ∈ (depGraph t).edges, E e.u + (depGraph t).w e.u ≤ E e.v := by
    intro e he; rw [hwD]; exact (hfe e he).2.2.2
  have hM : ∀ x, x < (depGraph t).n → E x + (depGraph t).w x ≤ maxFinish L := by
    intro x hx
    rw [hwD]
    have := hag.finish_le x (by omega)
    simpa using this
  refine ⟨fun p hp => DepGraph.path_le _ E _ hE hM p hp, ?_⟩
  have hne : L ≠ [] := by
    have := leavesTree_pos hw
    intro e
    rw [e] at hlen
    simp at hlen; omega
  obtain ⟨j, hj, hjm⟩ := exists_maxFinish L hne
  have h0 : E 0 = 0 := by rw [hag.headT hw]; rfl
  have hpend : pendT t 0 = [] := by
    obtain ⟨f, rfl, _⟩ := wnTask_group h
    simp [pendT]
  have ht : ∀ j, 0 < j → j < (depGraph t).n →
      ∃ e ∈ (depGraph t).edges, e.v = j ∧ e.u < j ∧ E e.u + (depGraph t).w e.u = E j := by
    intro j h1 h2
    rcases tightT v E D t 0 (rootCursor sc) hw hag j h1 (by omega) with q | q
    · obtain ⟨e, he, hv, hq⟩ := q
      exact ⟨e, he, hv, by have := (hfe e he).2.1; omega, by rw [hwD]; exact hq⟩
    · rw [hpend] at q; simp at q
  obtain ⟨r', hc, hwt⟩ := DepGraph.exists_tight_path _ E h0 ht j (by omega) [] trivial
  refine ⟨0 :: r', ⟨by omega, hc⟩, rfl, ?_⟩
  rw [hwt, DepGraph.pathWeight_cons, hwD, ← hjm]
  have := hag j hj
  simp only [Nat.zero_add] at this
  simp [DepGraph.pathWeight, this.1, this.2]

end MythVerif.DagRec
