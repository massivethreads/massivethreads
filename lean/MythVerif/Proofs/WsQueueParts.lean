import MythVerif.Proofs.WsQueueInv
/-! The SC invariant cut along the lines a step respects: clauses that speak of no particular
    program counter (`Glob`), what the owner's program counter says (`OwnerAt`), and what each
    other participant's says (`ThiefAt`).  A step of participant `p` rewrites `tpc p` and a few
    words; `OwnerAt` and the `ThiefAt` of everybody else then hold of the new state either
    because they do not read those words or because `p` holds the lock and they do not. -/
namespace MythVerif.Wsq

structure Glob (s : St) : Prop where
  lockO : s.lock = .owner ↔ ownerLocked s.opc = true
  lockT : ∀ p, s.lock = .thief p ↔ thiefLocked (s.tpc p) = true
  len   : (s.A.length : Int) = s.lt - s.lb
  cont  : ∀ k : Nat, k < s.A.length → s.ptr (s.lb + k) = s.A[k]?
  lb0   : 0 ≤ s.lb
  lts   : s.lt ≤ s.size
  base0 : 0 ≤ s.base
  tops  : s.top ≤ s.size
  ltop  : topSync s.opc = true → s.lt = s.top + (if midPop s.opc = true then 1 else 0)
  lbase : baseSync s.opc = true → s.base = s.lb + (if s.tr = true then 1 else 0)
  trp   : ∀ p, s.lock = .thief p → (s.tr = true ↔ transient (s.tpc p) = true)
  trn   : s.tr = true → ∃ p, s.lock = .thief p
  flOn  : ownerFlight s.opc = false → s.flO = none
  flTn  : s.flT ≠ none → ∃ p, s.lock = .thief p ∧ thiefFlight (s.tpc p) = true

def OwnerAt (s : St) : OPc → Prop
  | .pul _ => s.top = s.size
  | .pub _ => s.top = s.size
  | .pum _ off => s.top = s.size ∧ off < 0 ∧ 0 ≤ s.base + off
  | .pus _ off => s.lt = s.top + off ∧ s.lb = s.base + off ∧ s.top = s.size ∧ off < 0
  | .puv _ off => s.lb = s.base + off ∧ s.top < s.size
  | .pux _ t => s.top = t ∧ t < s.size
  | .pu1 _ t => s.top = t ∧ t < s.size ∧ 0 ≤ t
  | .pu2 e t => s.top = t ∧ t < s.size ∧ s.ptr t = some e
  | .po1 => 1 ≤ s.top
  | .po2 t => s.top = t ∧ 0 ≤ t ∧ t < s.size
  | .pol t => s.top = t ∧ 0 ≤ t ∧ t < s.size
  | .po4 t => s.top = t ∧ 0 ≤ t ∧ t < s.size
  | .po3 t x => s.top = t ∧ s.ptr t = some x ∧ s.lb ≤ t ∧ s.flO = some x ∧ t < s.size
  | .po5 t x => s.top = t ∧ s.ptr t = some x ∧ s.flO = some x ∧ 0 ≤ t ∧ t < s.size
  | .po5b t r => s.top = t ∧ r = s.flO ∧ 0 ≤ t ∧ t < s.size
  | .po5c t r => s.top = t ∧ r = s.flO
  | .po5d r => r = s.flO
  | .po6 r => r = s.flO
  | .po7 => s.lt = s.lb
  | .po8 => s.lt = s.lb ∧ s.lb = s.size / 2
  | .pt2 _ => s.base = 0
  | .pt3 _ off => s.base = 0 ∧ 0 < off ∧ s.top + off ≤ s.size
  | .pt4 _ off => s.lt = s.top + off ∧ s.lb = s.base + off ∧ s.base = 0 ∧ 0 < off
  | .pt5 _ off => s.lb = s.base + off ∧ s.base = 0 ∧ 0 < off
  | .pt7 _ b => s.base = b ∧ 0 < b
  | .pt8 e b => s.base = b ∧ 0 < b ∧ s.ptr (b - 1) = some e
  | .cl2 => s.lb = s.base ∧ s.lt = s.base
  | _ => True

def ThiefAt (s : St) : TPc → Prop
  | .tk2 b => s.lb = b
  | .tk5 b => s.lb = b
  | .tk3 b x => s.lb = b + 1 ∧ s.ptr b = some x ∧ s.flT = some x ∧ 0 ≤ b ∧ b < s.size
  | .tk4 r => r = s.flT
  | .wk2 b => s.lb = b
  | .wk3 b => s.lb = b ∧ b < s.lt
  | .wkd b r => s.lb = b ∧ b < s.lt ∧ r = s.ptr b
  | .wk4 r => r = s.flT
  | .wk4u r => r = s.flT
  | .wk5 b => s.lb = b
  | .tp2 _ b => s.lb = b ∧ 0 < b
  | .tp3 e b => s.lb = b ∧ 0 < b ∧ s.ptr (b - 1) = some e
  | .vk2 b => s.lb = b
  | .vk3 b => s.lb = b ∧ b < s.lt
  | .vk4 b _ => s.lb = b
  | .vk5 b => s.lb = b
  | .pk2 b => 0 ≤ b
  | .pk3 b => 0 ≤ b ∧ b < s.size
  | _ => True

theorem inv_iff (s : St) : Inv s ↔ Glob s ∧ OwnerAt s s.opc ∧ ∀ p, ThiefAt s (s.tpc p) := by
  constructor
  · intro h
    refine ⟨⟨h.lockO, h.lockT, h.len, h.cont, h.lb0, h.lts, h.base0, h.tops, h.ltop, h.lbase, h.trp, h.trn,
      h.flOn, h.flTn⟩, ?_, fun p => ?_⟩
    · cases h; cases hpc : s.opc <;> first | trivial | (simp only [OwnerAt]; solve_by_elim)
    · cases h; cases hpc : s.tpc p <;> first | trivial | (simp only [ThiefAt]; solve_by_elim)
  · intro ⟨g, ho, ht⟩
    cases g
    constructor
    any_goals assumption
    all_goals first
      | (intros; rename_i hpc; rw [hpc] at ho; exact ho)
      | (intro p; intros; rename_i hpc; have := ht p; rw [hpc] at this; exact this)

/-- `glob_step` for a step of the owner at `hpc : s.opc = …`, from `g : Glob s`: the classes of the
    old and of the new program counter are evaluated first -/
macro "glob_owner " g:ident hpc:ident " [" xs:Lean.Parser.Tactic.grindParam,* "]" : tactic => `(tactic| (
  obtain ⟨lockO, lockT, len, cont, lb0, lts, base0, tops, ltop, lbase, trp, trn, flOn, flTn⟩ := $g
  simp only [$hpc:ident, ownerLocked, midPop, topSync, baseSync, ownerFlight] at lockO ltop lbase flOn
  constructor
  all_goals try simp only [ownerLocked, midPop, topSync, baseSync, ownerFlight]
  all_goals first | assumption | grind [$xs,*]))

/-! ### Who holds the lock -/

theorem unlocked_sync {pc : OPc} (h : ownerLocked pc = false) :
    topSync pc = true ∧ baseSync pc = true := by
  cases pc <;> simp_all [ownerLocked, topSync, baseSync]

theorem Glob.owner_unlocked {s : St} (g : Glob s) {p : Pid} (hl : s.lock = .thief p) :
    ownerLocked s.opc = false := by
  cases ho : ownerLocked s.opc with
  | false => rfl
  | true => rw [g.lockO.2 ho] at hl; cases hl

theorem Glob.thief_unlocked {s : St} (g : Glob s) {p q : Pid} (hl : s.lock = .thief p) (hq : q ≠ p) :
    thiefLocked (s.tpc q) = false := by
  cases ht : thiefLocked (s.tpc q) with
  | false => rfl
  | true => rw [(g.lockT q).2 ht] at hl; cases hl; exact absurd rfl hq

theorem Glob.thieves_unlocked {s : St} (g : Glob s) (hl : s.lock = .owner) (q : Pid) :
    thiefLocked (s.tpc q) = false := by
  cases ht : thiefLocked (s.tpc q) with
  | false => rfl
  | true => rw [(g.lockT q).2 ht] at hl; cases hl

/-! ### Frames -/

/-- the others keep their clause when `p` moves -/
theorem thiefAt_upd {s : St} {tpc : Pid → TPc} {p : Pid} {pc' : TPc}
    (ht : ∀ q, q ≠ p → ThiefAt s (tpc q)) (hp : ThiefAt s pc') : ∀ q, ThiefAt s (upd tpc p pc' q) := by
  intro q; rw [upd_apply]; split
  · exact hp
  · exact ht q ‹_›

/-- outside the locked sections a participant's clause reads only the capacity -/
theorem ThiefAt.of_unlocked {s s' : St} {pc : TPc} (h : ThiefAt s pc) (hu : thiefLocked pc = false)
    (hs : s'.size = s.size) : ThiefAt s' pc := by
  cases pc <;> simp_all [thiefLocked, ThiefAt]

/-- a participant's clause reads `lb`, `flT`, the capacity, the slots `lb - 1` and (of a non-empty
    window) `lb`, and that the window is non-empty -/
theorem ThiefAt.frame {s s' : St} {pc : TPc} (h : ThiefAt s pc) (hsz : s'.size = s.size) (hlb : s'.lb = s.lb)
    (hfl : s'.flT = s.flT) (hp0 : s.lb < s.lt → s'.ptr s.lb = s.ptr s.lb)
    (hp1 : s'.ptr (s.lb - 1) = s.ptr (s.lb - 1)) (hlt : s.lb < s.lt → s.lb < s'.lt) : ThiefAt s' pc := by
  cases pc <;> simp_all [ThiefAt]
  all_goals grind

theorem Glob.tr_false {s : St} (g : Glob s) (hl : s.lock = .owner) : s.tr = false := by
  cases htr : s.tr with
  | false => rfl
  | true => obtain ⟨q, hq⟩ := g.trn htr; rw [hq] at hl; cases hl

/-- outside its locked sections the owner's clause reads `top`, `size`, `flO`, the slot at `top`
    (not in the middle of a pop, where a passer may be refilling that very slot) and, on the fast
    path of pop, that `lb` has not passed `top` -/
theorem OwnerAt.of_unlocked {s s' : St} {pc : OPc} (h : OwnerAt s pc) (hu : ownerLocked pc = false)
    (htop : s'.top = s.top) (hsz : s'.size = s.size) (hfl : s'.flO = s.flO) (hptr : midPop pc = false → s'.ptr s.top = s.ptr s.top)
    (hlb : ∀ t x, pc = .po3 t x → s'.lb ≤ t) : OwnerAt s' pc := by
  cases pc <;> simp_all [ownerLocked, midPop, OwnerAt]
  all_goals grind

/-- what a participant inside its locked section knows about the words it reads -/
theorem Inv.locked_view {s : St} {p : Pid} (h : Inv s) (hl : thiefLocked (s.tpc p) = true) :
    s.top ≤ s.lt ∧ s.top ≤ s.size ∧ 0 ≤ s.base ∧ 0 ≤ s.lb ∧
    s.base = s.lb + (if transient (s.tpc p) = true then 1 else 0) := by
  have hlock := (h.lockT p).2 hl
  have hs := unlocked_sync (((inv_iff s).1 h).1.owner_unlocked hlock)
  have := h.ltop hs.1; have := h.lbase hs.2; have := h.trp p hlock
  refine ⟨by grind, h.tops, h.base0, h.lb0, by grind⟩

theorem Inv.flT_none {s : St} {p : Pid} {pc : TPc} (h : Inv s) (hpc : s.tpc p = pc)
    (hl : thiefLocked pc = true) (hf : thiefFlight pc = false) : s.flT = none :=
  Classical.byContradiction fun hne => by
    obtain ⟨q, hq, hfl⟩ := h.flTn hne
    cases ((h.lockT p).2 (hpc ▸ hl)).symm.trans hq
    rw [hpc, hf] at hfl; cases hfl

/-- A step of `p` inside its locked section.  The owner is outside its own and every other
    participant outside theirs, so beside `Glob` only `p`'s new clause and the few words the owner's
    clause reads are left to look at (`hlb` is for the owner on the fast path of pop, whose clause
    says that `lb` has not passed `top`). -/
theorem Inv.thief_locked_step {s s' : St} {p : Pid} {pc' : TPc} (h : Inv s) (hl : thiefLocked (s.tpc p) = true)
    (htpc : s'.tpc = upd s.tpc p pc') (hopc : s'.opc = s.opc) (hsz : s'.size = s.size)
    (htop : s'.top = s.top) (hflO : s'.flO = s.flO) (hptr : midPop s.opc = false → s'.ptr s.top = s.ptr s.top)
    (hlb : s.lb ≤ s.top → s.lt = s.top → s'.lb ≤ s.top) (hg : Glob s') (hp : ThiefAt s' pc') : Inv s' := by
  obtain ⟨g, ho, ht⟩ := (inv_iff s).1 h
  have hlock := (g.lockT p).2 hl
  have hu := g.owner_unlocked hlock
  refine (inv_iff _).2 ⟨hg, ?_, ?_⟩
  · rw [hopc]
    refine ho.of_unlocked hu htop hsz hflO hptr fun t x hx => ?_
    have hlt := g.ltop (unlocked_sync hu).1
    rw [hx] at ho hlt
    have := hlb (ho.1 ▸ ho.2.2.1) (by simpa [midPop] using hlt)
    rw [← ho.1]; exact this
  · rw [htpc]
    exact thiefAt_upd (fun q hq => (ht q).of_unlocked (g.thief_unlocked hlock hq) hsz) hp

end MythVerif.Wsq
