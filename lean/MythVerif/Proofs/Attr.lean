import MythVerif.Model.Attr
/-! What `attr_init` and the public setters leave in each field of an attribute object. -/
namespace MythVerif.Attr

theorem attrInit_get (dflt : Defaults) (garbage : Field → Option Nat) (f : Field) :
    (attrInit dflt garbage).get f = some (defaultOf dflt f) := by
  cases f <;> rfl

theorem applySetters_get_none (sets : List Setter) (r : Raw) (f : Field) (h : ∀ st ∈ sets, st.field ≠ f) :
    (applySetters r sets).get f = r.get f := by
  induction sets generalizing r with
  | nil => rfl
  | cons st rest ih =>
    have h1 : st.field ≠ f := h st (by simp)
    have := ih (applySetter r st) (fun s hs => h s (by simp [hs]))
    simp only [applySetters, List.foldl_cons] at this ⊢
    rw [this]; simp [applySetter, Raw.set, Raw.get, h1]

theorem applySetters_get_some (sets : List Setter) (r : Raw) (f : Field) (h : r.get f ≠ none) :
    (applySetters r sets).get f ≠ none := by
  induction sets generalizing r with
  | nil => exact h
  | cons st rest ih =>
    apply ih
    by_cases e : st.field = f
    · simp [applySetter, Raw.set, Raw.get, e]
    · simpa [applySetter, Raw.set, Raw.get, e] using h

end MythVerif.Attr
