import MythVerif.Model.PthProg
/-!
Determinacy of the fork-join + lock-protected-commutative fragment (`MythVerif.PthProg.Prog`):
every step of the abstract interface preserves `val` and `store + delta`, so every complete
execution ends in `eval p`; terms that are not finished can always move and every execution is
finite (`size` decreases), so complete executions exist and are the only maximal ones.
-/
namespace MythVerif.PthProg

theorem step_preserves (x y : Prog × Store) (h : Step x y) :
    val y.1 = val x.1 ∧ ∀ i, y.2 i + delta y.1 i = x.2 i + delta x.1 i := by
  induction h with
  | add c k σ =>
    refine ⟨rfl, fun i => ?_⟩
    simp only [delta, Store.bump]
    split <;> omega
  | seqDone _ _ _ | fork _ _ _ | join _ _ _ => exact ⟨by simp [val], fun i => by simp [delta]⟩
  -- the moving component's share of `val` and `delta` changes, the other's stays
  | seqL _ _ _ _ _ _ ih | seqR _ _ _ _ _ _ ih | parL _ _ _ _ _ _ ih | parR _ _ _ _ _ _ ih =>
    refine ⟨by simp only [val, ih.1], fun i => ?_⟩
    have := ih.2 i
    simp only [delta] at *
    omega

theorem steps_preserve (x y : Prog × Store) (h : Steps x y) :
    val y.1 = val x.1 ∧ ∀ i, y.2 i + delta y.1 i = x.2 i + delta x.1 i := by
  induction h with
  | refl x => exact ⟨rfl, fun _ => rfl⟩
  | cons x y z hxy _ ih =>
    have h1 := step_preserves x y hxy
    exact ⟨ih.1.trans h1.1, fun i => (ih.2 i).trans (h1.2 i)⟩

theorem step_size (x y : Prog × Store) (h : Step x y) : size y.1 < size x.1 := by
  induction h <;> simp [size] at * <;> omega

theorem steps_length (x y : Prog × Store) (h : Steps x y) : size y.1 ≤ size x.1 := by
  induction h with
  | refl x => exact Nat.le_refl _
  | cons x y z hxy _ ih => have := step_size x y hxy; omega

/-- a relation along which a natural number decreases has no infinite chain (after `n` steps at
    most `m (f 0) - n` remain) -/
theorem no_infinite_descent {α : Type} (r : α → α → Prop) (m : α → Nat) (hm : ∀ x y, r x y → m y < m x)
    (f : Nat → α) (h : ∀ n, r (f n) (f (n + 1))) : False := by
  have key : ∀ n, m (f n) + n ≤ m (f 0) := by
    intro n
    induction n with
    | zero => simp
    | succ n ih => have := hm _ _ (h n); omega
  have := key (m (f 0) + 1)
  omega

/-- a term that is not a finished value can move, whatever the store -/
theorem progress (p : Prog) (σ : Store) : (∃ v, p = .ret v) ∨ ∃ p' σ', Step (p, σ) (p', σ') := by
  induction p generalizing σ with
  | ret v => exact Or.inl ⟨v, rfl⟩
  | add c k => exact Or.inr ⟨_, _, Step.add c k σ⟩
  | seq a b iha ihb =>
    right
    rcases iha σ with ⟨v, rfl⟩ | ⟨a', σ', h⟩
    · rcases ihb σ with ⟨w, rfl⟩ | ⟨b', σ', h⟩
      · exact ⟨_, _, Step.seqDone v w σ⟩
      · exact ⟨_, _, Step.seqR v b b' σ σ' h⟩
    · exact ⟨_, _, Step.seqL a a' b σ σ' h⟩
  | fork c b _ _ => exact Or.inr ⟨_, _, Step.fork c b σ⟩
  | par c b ihc ihb =>
    right
    rcases ihc σ with ⟨v, rfl⟩ | ⟨c', σ', h⟩
    · rcases ihb σ with ⟨w, rfl⟩ | ⟨b', σ', h⟩
      · exact ⟨_, _, Step.join v w σ⟩
      · exact ⟨_, _, Step.parR _ b b' σ σ' h⟩
    · exact ⟨_, _, Step.parL c c' b σ σ' h⟩

theorem steps_trans (x y z : Prog × Store) (h1 : Steps x y) (h2 : Steps y z) : Steps x z := by
  induction h1 with
  | refl x => exact h2
  | cons a b c hab _ ih => exact Steps.cons a b z hab (ih h2)

/-- from every configuration some complete execution exists: move while `progress` allows,
    `size` bounds the number of moves -/
theorem complete_exists (p : Prog) (σ : Store) : ∃ v σ', Steps (p, σ) (.ret v, σ') := by
  induction hn : size p using Nat.strongRecOn generalizing p σ with
  | ind n ih =>
    rcases progress p σ with ⟨v, rfl⟩ | ⟨p', σ', h⟩
    · exact ⟨v, σ, Steps.refl _⟩
    · obtain ⟨v, σ'', hr⟩ := ih (size p') (hn ▸ step_size _ _ h) p' σ' rfl
      exact ⟨v, σ'', Steps.cons _ _ _ h hr⟩

end MythVerif.PthProg
