import MythVerif.Proofs.PiDagPre
/-! All edges of a laid-out DAG as a list defined on the tree (`teN`), a permutation of what
`dr_pi_dag_enum_edges` emits; every edge goes forward in the preorder, the first leaf is the first
leaf of the preorder, and every other leaf of a recorded DAG has an incoming edge. -/
namespace MythVerif.PiDag
open MythVerif.DagRec

mutual
/-- all edges emitted for the groups in the subtree of the node at `idx` -/
def teN (kf : Nat → EKind) : DNode → Nat → Nat → List PEdge
  | .ival _, _, _ => []
  | .create _ ch, _, base => teN kf ch base (base + 1)
  | .group _ ds, _, base => groupEdges kf ds base (base + ds.length) ++ teL kf ds base (base + ds.length)
def teL (kf : Nat → EKind) : DList → Nat → Nat → List PEdge
  | .nil, _, _ => []
  | .cons d r, k, base => teN kf d k base ++ teL kf r (k + 1) (base + descT d)
end

mutual
theorem count_teN (kf : Nat → EKind) (e : PEdge) : ∀ (d : DNode) (idx base : Nat),
    (teN kf d idx base).count e = tsN (fun d' g b' => (nodeEdges kf d' g b').count e) d idx base
  | .ival _, _, _ => by simp [teN, tsN, nodeEdges]
  | .create i ch, idx, base => by
    simp only [teN, tsN, nodeEdges, count_teN kf e ch base (base + 1)]
    simp
  | .group i ds, idx, base => by
    simp only [teN, tsN, nodeEdges, List.count_append, count_teL kf e ds base (base + ds.length)]
theorem count_teL (kf : Nat → EKind) (e : PEdge) : ∀ (ds : DList) (k base : Nat),
    (teL kf ds k base).count e = tsL (fun d' g b' => (nodeEdges kf d' g b').count e) ds k base
  | .nil, _, _ => by simp [teL, tsL]
  | .cons d r, k, base => by
    simp only [teL, tsL, List.count_append, count_teN kf e d k base, count_teL kf e r (k + 1) (base + descT d)]
end

/-- the edges `dr_pi_dag_enum_edges` emits are, up to order, the edges of the tree -/
theorem enumEdges_perm (T : Array PNode) (d : DNode) (hl : LayN T d 0 1) (hn : T.size = 1 + descT d) (hw : gW d = true) :
    (enumEdges T).Perm (teN (kfOf T) d 0 1) := by
  rw [List.perm_iff_count]
  intro e
  rw [count_teN]
  have : (enumEdges T).count e = rsum T.size (fun i => (edgesOfGroup T i).count e) := by
    simp only [enumEdges, List.count_flatMap, rsum]
    rfl
  rw [this]
  exact sum_all T _ _ (fun d' g b' q1 q2 q3 => by rw [nodeEdges_eq T d' g b' q1 q2 q3]) d hl hn hw

/-! ### every edge goes forward in the preorder -/

theorem mem_preN_self (d : DNode) (idx base : Nat) : idx ∈ preN d idx base := by
  rw [mem_preN]; exact Or.inl rfl

theorem preL_disjoint (d : DNode) (r : DList) (k base : Nat) (hb : k + (r.length + 1) ≤ base) :
    ∀ x, x ∈ preL r (k + 1) (base + descT d) → x ∉ preN d k base := by
  intro x hx hx'
  rw [mem_preL] at hx; rw [mem_preN] at hx'
  simp only [InL, InN] at hx hx'
  omega

theorem not_mem_preL (ds : DList) (idx base : Nat) (hb : idx < base) : idx ∉ preL ds base (base + ds.length) := by
  intro h
  rw [mem_preL] at h
  simp only [InL] at h
  omega

theorem bef_cons' {l : List Nat} {x u v : Nat} (h : Bef l u v) (hx : x ∉ l) : Bef (x :: l) u v :=
  bef_cons h (fun e => hx (e ▸ h.1)) (fun e => hx (e ▸ h.2.1))

theorem ordC (t : Nat) : ∀ (ds : DList) (y base : Nat), y + ds.length ≤ base →
    ∀ e ∈ createEdges t ds y base, Bef (preL ds y base) e.u e.v ∨ (e.u ∈ preL ds y base ∧ e.v = t)
  | .nil, _, _, _ => by simp [createEdges]
  | .cons d r, y, base, hb => by
    simp only [DList.length] at hb
    intro e he
    simp only [createEdges, List.mem_append] at he
    simp only [preL]
    rcases he with he | he
    · cases d with
      | ival _ => simp [createOf] at he
      | group _ _ => simp [createOf] at he
      | create i ch =>
        simp only [createOf, List.mem_cons, List.not_mem_nil, or_false] at he
        rcases he with rfl | rfl
        · left
          apply bef_append_left
          simp only [preN]
          have := firstN_in ch base (base + 1)
          apply bef_cons_head
          · rw [mem_preN]; exact this
          · simp only [InN] at this; omega
        · right
          refine ⟨?_, rfl⟩
          simp only [List.mem_append, preN, List.mem_cons]
          left; right
          rw [mem_preN]; exact lastN_in ch base (base + 1)
    · have ih := ordC t r (y + 1) (base + descT d) (by omega) e he
      have hdis := preL_disjoint d r y base hb
      rcases ih with ih | ih
      · left; exact bef_append_right ih (hdis _ ih.1) (hdis _ ih.2.1)
      · right; exact ⟨by simp [ih.1], ih.2⟩

mutual
theorem ordN (kf : Nat → EKind) : ∀ (d : DNode) (idx base : Nat), idx < base →
    ∀ e ∈ teN kf d idx base, Bef (preN d idx base) e.u e.v
  | .ival _, _, _, _ => by simp [teN]
  | .create i ch, idx, base, hb => by
    intro e he
    simp only [teN] at he
    have ih := ordN kf ch base (base + 1) (by omega) e he
    refine bef_cons' ih fun h => ?_
    have := (mem_preN ch base (base + 1) _).mp h
    simp only [InN] at this
    omega
  | .group i ds, idx, base, hb => by
    intro e he
    simp only [teN] at he
    have ih := ordL kf ds base (base + ds.length) (Nat.le_refl _) e he
    exact bef_cons' ih (not_mem_preL ds idx base hb)
theorem ordL (kf : Nat → EKind) : ∀ (ds : DList) (k base : Nat), k + ds.length ≤ base →
    ∀ e ∈ groupEdges kf ds k base ++ teL kf ds k base, Bef (preL ds k base) e.u e.v
  | .nil, _, _, _ => by simp [groupEdges, teL]
  | .cons d r, k, base, hb => by
    simp only [DList.length] at hb
    intro e he
    simp only [groupEdges, teL, List.mem_append] at he
    simp only [preL]
    have hdis := preL_disjoint d r k base hb
    have ihr := ordL kf r (k + 1) (base + descT d) (by omega)
    rcases he with (he | he) | (he | he)
    · -- the edges of the non-last child `d`
      split at he
      · simp at he
      · rename_i hnil
        have hnil' : r.isNil = false := by simpa using hnil
        have ht := firstL_in r (k + 1) (base + descT d) 0 hnil'
        have htm := (mem_preL r _ _ _).mpr ht
        simp only [itemEdges, List.mem_cons] at he
        rcases he with rfl | he
        · exact bef_append_cross ((mem_preN d k base _).mpr (lastN_in d k base)) (hdis _ htm) htm
        · cases d with
          | ival _ => simp [sectionEdges] at he
          | create _ _ => simp [sectionEdges] at he
          | group i' ds' =>
            simp only [sectionEdges] at he
            split at he
            · have hc := ordC _ ds' base (base + ds'.length) (Nat.le_refl _) e he
              rcases hc with hc | hc
              · exact bef_append_left (bef_cons' hc (not_mem_preL ds' k base (by omega)))
              · rw [hc.2]
                refine bef_append_cross ?_ (hdis _ htm) htm
                simp only [preN, List.mem_cons]
                right; exact hc.1
            · simp at he
    · have ih := ihr e (by simp [he])
      exact bef_append_right ih (hdis _ ih.1) (hdis _ ih.2.1)
    · exact bef_append_left (ordN kf d k base (by omega) e he)
    · have ih := ihr e (by simp [he])
      exact bef_append_right ih (hdis _ ih.1) (hdis _ ih.2.1)
end

/-! ### the first leaf is the first leaf of the preorder -/

mutual
theorem minN : ∀ (d : DNode) (idx base : Nat), idx < base → ∀ v ∈ leavesN d idx base,
    (preN d idx base).idxOf (firstN d idx base) ≤ (preN d idx base).idxOf v
  | .ival _, idx, base, _ => by intro v _; simp [preN, firstN]
  | .create i ch, idx, base, _ => by intro v _; simp [preN, firstN]
  | .group i ds, idx, base, hb => by
    intro v hv
    cases ds with
    | nil => simp [preN, firstN, firstL]
    | cons d1 r =>
      simp only [leavesN, DList.isNil, Bool.false_eq_true, if_false] at hv
      have ih := minL (.cons d1 r) base (base + (DList.cons d1 r).length) (Nat.le_refl _) rfl v hv
      have hf := firstL_in (.cons d1 r) base (base + (DList.cons d1 r).length) 0 rfl
      have hvv := leavesL_in _ _ _ _ hv
      simp only [firstN, preN]
      rw [firstL_cons] at ih hf ⊢
      simp only [InL] at hf hvv
      rw [List.idxOf_cons, List.idxOf_cons]
      have h1 : (idx == firstN d1 base (base + (DList.cons d1 r).length)) = false := by
        simp only [beq_eq_false_iff_ne, ne_eq]; omega
      have h2 : (idx == v) = false := by simp only [beq_eq_false_iff_ne, ne_eq]; omega
      simp only [h1, h2, cond_false]
      omega
theorem minL : ∀ (ds : DList) (k base : Nat), k + ds.length ≤ base → ds.isNil = false → ∀ v ∈ leavesL ds k base,
    (preL ds k base).idxOf (firstL ds k base 0) ≤ (preL ds k base).idxOf v
  | .nil, _, _, _, h => by simp [DList.isNil] at h
  | .cons d r, k, base, hb, _ => by
    simp only [DList.length] at hb
    intro v hv
    simp only [leavesL, List.mem_append] at hv
    simp only [preL, firstL]
    have hfm : firstN d k base ∈ preN d k base := (mem_preN _ _ _ _).mpr (firstN_in d k base)
    rw [List.idxOf_append, if_pos hfm, List.idxOf_append]
    rcases hv with hv | hv
    · have hvm : v ∈ preN d k base := (mem_preN _ _ _ _).mpr (leavesN_in _ _ _ _ hv)
      rw [if_pos hvm]
      exact minN d k base (by omega) v hv
    · have hvn : v ∉ preN d k base := by
        intro h
        rw [mem_preN] at h
        have := leavesL_in _ _ _ _ hv
        simp only [InN, InL] at h this
        omega
      rw [if_neg hvn]
      have := List.idxOf_lt_length_of_mem hfm
      omega
end

/-! ### every leaf but the first has an incoming edge -/

def HasIn (es : List PEdge) (v : Nat) : Prop := ∃ e ∈ es, e.v = v

theorem HasIn.mono {es es' : List PEdge} {v : Nat} (h : HasIn es v) (hs : ∀ e ∈ es, e ∈ es') : HasIn es' v := by
  obtain ⟨e, he, hv⟩ := h
  exact ⟨e, hs e he, hv⟩

/-- first leaf of the child task of a create node -/
def pendO : DNode → Nat → List Nat
  | .create _ ch, base => [firstN ch base (base + 1)]
  | _, _ => []

-- `pendO`, `pendC`, `pendN`: the lists `DagRec.pendO`, `pendF`, `pendT` (`DagRecPathMain`, where the idea is
-- explained) on the laid-out tree, with slots in place of positions
def pendC : DList → Nat → Nat → List Nat
  | .nil, _, _ => []
  | .cons d r, y, base => pendO d base ++ pendC r (y + 1) (base + descT d)

/-- leaves of the node whose incoming edge is emitted by the parent of the node -/
def pendN : DNode → Nat → Nat → List Nat
  | .ival _, _, _ => []
  | .create i ch, _, base => pendO (.create i ch) base
  | .group i ds, _, base => if i.c.kind == .section then pendC ds base (base + ds.length) else []

theorem createEdges_in (t : Nat) : ∀ (ds : DList) (y base v : Nat), v ∈ pendC ds y base → HasIn (createEdges t ds y base) v
  | .nil, _, _, _, h => by simp [pendC] at h
  | .cons d r, y, base, v, h => by
    simp only [pendC, List.mem_append] at h
    rcases h with h | h
    · cases d with
      | ival _ => simp [pendO] at h
      | group _ _ => simp [pendO] at h
      | create i ch =>
        simp only [pendO, List.mem_singleton] at h
        exact ⟨⟨.create, y, firstN ch base (base + 1)⟩, by simp [createEdges, createOf], h.symm⟩
    · exact (createEdges_in t r (y + 1) (base + descT d) v h).mono (fun e he => by simp [createEdges, he])

theorem pendC_task : ∀ (ds : DList) (y base : Nat), gForest true ds = true → pendC ds y base = []
  | .nil, _, _, h => by simp [gForest] at h
  | .cons d .nil, y, base, h => by
    simp only [gForest] at h
    cases d <;> simp_all [gLast, pendC, pendO]
  | .cons d (.cons d' r), y, base, h => by
    rw [gForest_cons2, Bool.and_eq_true] at h
    have ih := pendC_task (.cons d' r) (y + 1) (base + descT d) h.2
    rw [pendC, ih]
    cases d <;> simp_all [gItem, pendO]

mutual
theorem inN (kf : Nat → EKind) : ∀ (d : DNode) (idx base : Nat) (b : Bool),
    (gItem b d = true ∨ gLast b d = true ∨ gTask d = true) →
    ∀ v ∈ leavesN d idx base, v = firstN d idx base ∨ HasIn (teN kf d idx base) v ∨ v ∈ pendN d idx base
  | .ival _, idx, base, b, _ => by intro v hv; left; simpa [leavesN, firstN] using hv
  | .create i ch, idx, base, b, hg => by
    intro v hv
    have hch : gTask ch = true := by
      rcases hg with h | h | h
      · simp only [gItem, Bool.and_eq_true] at h; exact h.2
      · simp [gLast] at h
      · simp [gTask] at h
    simp only [leavesN, List.mem_cons] at hv
    rcases hv with hv | hv
    · left; exact hv
    · rcases inN kf ch base (base + 1) true (Or.inr (Or.inr hch)) v hv with h | h | h
      · right; right; simp [pendN, pendO, h]
      · right; left; exact h
      · exfalso
        cases ch with
        | group ic dsc =>
          simp only [gTask, Bool.and_eq_true, beq_iff_eq] at hch
          simp [pendN, hch.1] at h
        | ival _ => simp [gTask] at hch
        | create _ _ => simp [gTask] at hch
  | .group i ds, idx, base, b, hg => by
    intro v hv
    cases hds : ds with
    | nil => subst hds; left; simpa [leavesN, firstN, firstL, DList.isNil] using hv
    | cons d1 r =>
      rw [← hds]
      have hnil : ds.isNil = false := by rw [hds]; rfl
      simp only [leavesN, hnil, Bool.false_eq_true, if_false] at hv
      have hfirst : firstN (.group i ds) idx base = firstL ds base (base + ds.length) 0 := by
        simp only [firstN]; rw [hds]; rfl
      rw [hfirst]
      rcases hg with h | h | h
      · simp only [gItem, Bool.and_eq_true, hnil, Bool.false_or] at h
        rcases inL kf ds base (base + ds.length) false h.2 v hv with q | q | q
        · left; exact q
        · right; left; simpa [teN] using q
        · right; right; simp only [pendN, h.1, if_true]; exact q
      · simp [gLast] at h
      · simp only [gTask, Bool.and_eq_true, hnil, Bool.false_or] at h
        rcases inL kf ds base (base + ds.length) true h.2 v hv with q | q | q
        · left; exact q
        · right; left; simpa [teN] using q
        · rw [pendC_task ds _ _ h.2] at q; simp at q
theorem inL (kf : Nat → EKind) : ∀ (ds : DList) (k base : Nat) (b : Bool), gForest b ds = true →
    ∀ v ∈ leavesL ds k base, v = firstL ds k base 0 ∨ HasIn (groupEdges kf ds k base ++ teL kf ds k base) v ∨
      v ∈ pendC ds k base
  | .nil, _, _, _, h => by simp [gForest] at h
  | .cons d .nil, k, base, b, h => by
    simp only [gForest] at h
    intro v hv
    cases d with
    | ival _ => left; simpa [leavesL, leavesN, firstL, firstN] using hv
    | create _ _ => simp [gLast] at h
    | group _ _ => simp [gLast] at h
  | .cons d (.cons d' r), k, base, b, h => by
    rw [gForest_cons2, Bool.and_eq_true] at h
    intro v hv
    rw [leavesL, List.mem_append] at hv
    rw [groupEdges_cons2, firstL_cons]
    have hte : teL kf (.cons d (.cons d' r)) k base = teN kf d k base ++ teL kf (.cons d' r) (k + 1) (base + descT d) := by
      rw [teL]
    have hpc : pendC (.cons d (.cons d' r)) k base = pendO d base ++ pendC (.cons d' r) (k + 1) (base + descT d) := by
      rw [pendC]
    rw [hte, hpc]
    rcases hv with hv | hv
    · rcases inN kf d k base b (Or.inl h.1) v hv with q | q | q
      · left; exact q
      · right; left; exact q.mono (fun e he => by simp [he])
      · cases d with
        | ival _ => simp [pendN] at q
        | create i ch => right; right; simp only [pendN] at q; simp [q]
        | group i' ds' =>
          right; left
          simp only [pendN] at q
          split at q
          · rename_i hk
            have := createEdges_in (firstN d' (k + 1) (base + descT (.group i' ds'))) ds' base (base + ds'.length) v q
            exact this.mono (fun e he => by simp [itemEdges, sectionEdges, hk, he])
          · simp at q
    · rcases inL kf (.cons d' r) (k + 1) (base + descT d) b h.2 v hv with q | q | q
      · right; left
        rw [firstL_cons] at q
        exact ⟨⟨kf (firstN d' (k + 1) (base + descT d)), lastN d k base, firstN d' (k + 1) (base + descT d)⟩,
          by simp [itemEdges], q.symm⟩
      · right; left; exact q.mono (fun e he => by
          simp only [List.mem_append] at he ⊢
          rcases he with he | he
          · left; right; exact he
          · right; right; exact he)
      · right; right; simp [q]
end

/-- in a recorded DAG every leaf but the first has an incoming edge -/
theorem leaf_has_in (kf : Nat → EKind) (d : DNode) (h : gTask d = true) (v : Nat) (hv : v ∈ leavesN d 0 1)
    (hne : v ≠ firstN d 0 1) : HasIn (teN kf d 0 1) v := by
  rcases inN kf d 0 1 true (Or.inr (Or.inr h)) v hv with q | q | q
  · exact absurd q hne
  · exact q
  · exfalso
    cases d with
    | group i ds =>
      simp only [gTask, Bool.and_eq_true, beq_iff_eq] at h
      simp [pendN, h.1] at q
    | ival _ => simp [gTask] at h
    | create _ _ => simp [gTask] at h

end MythVerif.PiDag
