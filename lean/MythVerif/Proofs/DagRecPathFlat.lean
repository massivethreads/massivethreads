import MythVerif.Proofs.DagRecPathDump
/-!
The longest-path statement on the DUMPED uncontracted DAG: vertices are the slots of the node
array, edges are the array `E` that `dr_pi_dag_enum_edges` / sort produce (`PiDag.flatten`).
First what a dump holds in the slots of the leaves: `est` and `t_1` of the `j`-th interval of the
execution sit in slot `(leavesN d 0 1)[j]` of the node array, and that slot is a leaf of the array.
-/
namespace MythVerif.PiDag
open MythVerif.DagRec

/-- the two fields the longest-path argument reads -/
def Sim (a b : Info) : Prop := a.c.est = b.c.est ∧ a.c.t1 = b.c.t1

mutual
/-- the slots of the layout of `d` hold (copies of) the infos of the nodes of `d` -/
def InfN (T : Array PNode) : DNode → Nat → Nat → Prop
  | .ival i, idx, _ => Sim T[idx]!.info i
  | .create i ch, idx, base => Sim T[idx]!.info i ∧ InfN T ch base (base + 1)
  | .group i ds, idx, base => Sim T[idx]!.info i ∧ InfL T ds base (base + ds.length)
def InfL (T : Array PNode) : DList → Nat → Nat → Prop
  | .nil, _, _ => True
  | .cons d r, k, base => InfN T d k base ∧ InfL T r (k + 1) (base + descT d)
end

mutual
theorem InfN_congr (T T' : Array PNode) : ∀ (d : DNode) (idx base : Nat),
    (∀ j, j = idx ∨ (base ≤ j ∧ j < base + descT d) → T'[j]!.info = T[j]!.info) → InfN T d idx base → InfN T' d idx base
  | .ival i, idx, base, h, hl => by
    simp only [InfN] at hl ⊢
    rw [h idx (Or.inl rfl)]; exact hl
  | .create i ch, idx, base, h, hl => by
    simp only [InfN, descT] at hl h ⊢
    rw [h idx (Or.inl rfl)]
    exact ⟨hl.1, InfN_congr T T' ch base (base + 1) (fun j hj => h j (by omega)) hl.2⟩
  | .group i ds, idx, base, h, hl => by
    simp only [InfN, descT] at hl h ⊢
    rw [h idx (Or.inl rfl)]
    have := descL_eq ds
    exact ⟨hl.1, InfL_congr T T' ds base (base + ds.length) (fun j hj => h j (by omega)) hl.2⟩
theorem InfL_congr (T T' : Array PNode) : ∀ (ds : DList) (k base : Nat),
    (∀ j, (k ≤ j ∧ j < k + ds.length) ∨ (base ≤ j ∧ j < base + descS ds) → T'[j]!.info = T[j]!.info) →
    InfL T ds k base → InfL T' ds k base
  | .nil, _, _, _, _ => trivial
  | .cons d r, k, base, h, hl => by
    simp only [InfL, descS, DList.length] at hl h ⊢
    exact ⟨InfN_congr T T' d k base (fun j hj => h j (by omega)) hl.1,
      InfL_congr T T' r (k + 1) (base + descT d) (fun j hj => h j (by omega)) hl.2⟩
end

/-- the slots `k, k+1, …` hold copies of the members of `ds` -/
def SimAt (T : Array PNode) : DList → Nat → Prop
  | .nil, _ => True
  | .cons d r, k => Sim T[k]!.info d.info ∧ SimAt T r (k + 1)

theorem SimAt_congr (T T' : Array PNode) : ∀ (ds : DList) (k : Nat),
    (∀ j, k ≤ j ∧ j < k + ds.length → T'[j]!.info = T[j]!.info) → SimAt T ds k → SimAt T' ds k
  | .nil, _, _, _ => trivial
  | .cons d r, k, h, hk => by
    simp only [SimAt, DList.length] at hk h ⊢
    rw [h k (by omega)]
    exact ⟨hk.1, SimAt_congr T T' r (k + 1) (fun j hj => h j (by omega)) hk.2⟩

theorem copyNode_sim (sc : Nat) (st : List Nat) (i : Info) : Sim (copyNode sc st i).1.info i := ⟨rfl, rfl⟩

theorem pushAll_sim (sc : Nat) : ∀ (ds : DList) (s : FlatSt), SimAt (pushAll sc ds s).T ds s.T.size
  | .nil, _ => trivial
  | .cons d r, s => by
    simp only [pushAll, SimAt]
    have ih := pushAll_sim sc r { T := s.T.push (copyNode sc s.st d.info).1, st := (copyNode sc s.st d.info).2 }
    have hu := (pushAll_lay sc r { T := s.T.push (copyNode sc s.st d.info).1, st := (copyNode sc s.st d.info).2 }).1
    simp only [Array.size_push] at ih hu
    refine ⟨?_, ih⟩
    rw [hu s.T.size (by omega) (by omega), push_get_eq]
    exact copyNode_sim _ _ _

mutual
theorem flatNode_inf (sc : Nat) : ∀ (d : DNode) (idx : Nat) (s : FlatSt), idx < s.T.size →
    Sim s.T[idx]!.info d.info → InfN (flatNode sc d idx s).T d idx s.T.size
  | .ival _, idx, s, _, hk => by simpa [flatNode, InfN, DNode.info] using hk
  | .create i ch, idx, s, hi, hk => by
    have hroot := (flatNode_spec sc (.create i ch) idx s).2.2 idx hi
    simp only [InfN]
    refine ⟨by rw [hroot]; exact hk, ?_⟩
    simp only [flatNode]
    have ih := flatNode_inf sc ch s.T.size
      { T := (s.T.push (copyNode sc s.st ch.info).1).modify idx (fun x => { x with a := s.T.size - idx }),
        st := (copyNode sc s.st ch.info).2 } (by simp) (by
          simp only
          rw [modify_get_ne _ _ _ _ (by omega), push_get_eq]; exact copyNode_sim _ _ _)
    simpa only [Array.size_modify, Array.size_push] using ih
  | .group i ds, idx, s, hi, hk => by
    have hroot := (flatNode_spec sc (.group i ds) idx s).2.2 idx hi
    simp only [InfN]
    refine ⟨by rw [hroot]; exact hk, ?_⟩
    simp only [flatNode]
    have hps := (pushAll_spec sc ds s).1
    have ih := flatList_inf sc ds s.T.size
      { T := (pushAll sc ds s).T.modify idx (fun x => { x with a := s.T.size - idx, b := (pushAll sc ds s).T.size - idx }),
        st := (pushAll sc ds s).st } (by simp; omega)
      (SimAt_congr _ _ ds _ (fun j _ => modify_info _ _ _ _ (fun _ => rfl)) (pushAll_sim sc ds s))
    simp only [Array.size_modify] at ih
    rw [hps] at ih ⊢
    exact ih
theorem flatList_inf (sc : Nat) : ∀ (ds : DList) (k : Nat) (s : FlatSt), k + ds.length ≤ s.T.size →
    SimAt s.T ds k → InfL (flatList sc ds k s).T ds k s.T.size
  | .nil, _, _, _, _ => trivial
  | .cons d r, k, s, hi, hk => by
    simp only [flatList, InfL, DList.length, SimAt] at hi hk ⊢
    have h1 := flatNode_inf sc d k s (by omega) hk.1
    have hs1 := (flatNode_spec sc d k s).1
    have hinfo := (flatNode_spec sc d k s).2
    have h2 := flatList_inf sc r (k + 1) (flatNode sc d k s) (by omega)
      (SimAt_congr _ _ r _ (fun j hj => hinfo.2 j (by omega)) hk.2)
    rw [hs1] at h2
    have hkeep := (flatList_spec sc r (k + 1) (flatNode sc d k s)).2
    exact ⟨InfN_congr _ _ d k s.T.size (fun j hj => hkeep.2 j (by omega)) h1, h2⟩
end

theorem enumNodes_inf (sc : Nat) (d : DNode) : InfN (enumNodes sc d).T d 0 1 := by
  unfold enumNodes
  have h := flatNode_inf sc d 0 { T := #[(copyNode sc [] d.info).1], st := (copyNode sc [] d.info).2 } (by simp)
    (by simpa using copyNode_sim sc [] d.info)
  simpa using h

theorem flatten_inf (sc nw : Nat) (d : DNode) : InfN (flatten sc nw d).T d 0 1 := by
  have h := enumNodes_inf sc d
  unfold flatten finishDag
  simp only
  exact InfN_congr _ _ d 0 1 (fun j _ => (setEdgePtrs_spec _ _).2 j) h

def Pw {α β : Type} (R : α → β → Prop) (a : List α) (b : List β) : Prop :=
  a.length = b.length ∧ ∀ j (h1 : j < a.length) (h2 : j < b.length), R a[j] b[j]

theorem Pw.nil {α β : Type} (R : α → β → Prop) : Pw R [] [] := ⟨rfl, fun j h => by simp at h⟩

theorem Pw.cons {α β : Type} {R : α → β → Prop} {x : α} {y : β} {a : List α} {b : List β}
    (h : R x y) (ht : Pw R a b) : Pw R (x :: a) (y :: b) := by
  refine ⟨by simp [ht.1], fun j h1 h2 => ?_⟩
  cases j with
  | zero => simpa using h
  | succ j => simpa using ht.2 j (by simpa using h1) (by simpa using h2)

theorem Pw.append {α β : Type} {R : α → β → Prop} {a a' : List α} {b b' : List β}
    (h : Pw R a b) (h' : Pw R a' b') : Pw R (a ++ a') (b ++ b') := by
  refine ⟨by simp [h.1, h'.1], fun j h1 h2 => ?_⟩
  by_cases hj : j < a.length
  · rw [List.getElem_append_left hj, List.getElem_append_left (by rw [← h.1]; exact hj)]
    exact h.2 j hj _
  · rw [List.getElem_append_right (by omega), List.getElem_append_right (by rw [← h.1]; omega)]
    have := h'.2 (j - a.length) (by simp at h1; omega) (by simp at h2; have := h.1; omega)
    simpa [h.1] using this

mutual
theorem inf_leavesN (T : Array PNode) : ∀ (d : DNode) (idx base : Nat), InfN T d idx base →
    Pw (fun s i => Sim T[s]!.info i) (leavesN d idx base) (linfoN d)
  | .ival i, idx, base, h => by
    simp only [InfN] at h
    simp only [leavesN, linfoN]
    exact Pw.cons h (Pw.nil _)
  | .create i ch, idx, base, h => by
    simp only [InfN] at h
    simp only [leavesN, linfoN]
    exact Pw.cons h.1 (inf_leavesN T ch base (base + 1) h.2)
  | .group i ds, idx, base, h => by
    simp only [InfN] at h
    simp only [leavesN, linfoN]
    split
    · exact Pw.cons h.1 (Pw.nil _)
    · exact inf_leavesL T ds base _ h.2
theorem inf_leavesL (T : Array PNode) : ∀ (ds : DList) (k base : Nat), InfL T ds k base →
    Pw (fun s i => Sim T[s]!.info i) (leavesL ds k base) (linfoL ds)
  | .nil, _, _, _ => by simp only [leavesL, linfoL]; exact Pw.nil _
  | .cons d r, k, base, h => by
    simp only [InfL] at h
    simp only [leavesL, linfoL]
    exact (inf_leavesN T d k base h.1).append (inf_leavesL T r (k + 1) _ h.2)
end

/-! ### the slots of `leavesN` are leaves of the array -/

mutual
theorem leavesN_isLeaf (T : Array PNode) : ∀ (d : DNode) (idx base : Nat), LayN T d idx base → gW d = true →
    ∀ r ∈ leavesN d idx base, isLeaf T[r]! = true
  | .ival i, idx, base, hl, hw => by
    intro r hr
    simp only [leavesN, List.mem_singleton] at hr
    subst hr
    exact isLeaf_of_lay hl hw (fun _ _ h => by cases h)
  | .create i ch, idx, base, hl, hw => by
    intro r hr
    simp only [leavesN, List.mem_cons] at hr
    rcases hr with rfl | hr
    · exact isLeaf_of_lay hl hw (fun _ _ h => by cases h)
    · simp only [LayN] at hl
      simp only [gW, Bool.and_eq_true] at hw
      exact leavesN_isLeaf T ch base (base + 1) hl.2.2.2 hw.2 r hr
  | .group i ds, idx, base, hl, hw => by
    intro r hr
    simp only [leavesN] at hr
    split at hr
    · rename_i hn
      simp only [List.mem_singleton] at hr
      subst hr
      refine isLeaf_of_lay hl hw (fun i' ds' h => ?_)
      cases h
      cases ds with
      | nil => rfl
      | cons _ _ => simp [DList.isNil] at hn
    · obtain ⟨h1, h2, h3, h4, h5, h6⟩ := group_kind_facts hl hw
      exact leavesL_isLeaf T ds base _ h5 h6 r hr
theorem leavesL_isLeaf (T : Array PNode) : ∀ (ds : DList) (k base : Nat), LayL T ds k base → gWL ds = true →
    ∀ r ∈ leavesL ds k base, isLeaf T[r]! = true
  | .nil, _, _, _, _ => by simp [leavesL]
  | .cons d rr, k, base, hl, hw => by
    simp only [LayL] at hl
    simp only [gWL, Bool.and_eq_true] at hw
    intro r hr
    simp only [leavesL, List.mem_append] at hr
    rcases hr with hr | hr
    · exact leavesN_isLeaf T d k base hl.1 hw.1 r hr
    · exact leavesL_isLeaf T rr (k + 1) _ hl.2 hw.2 r hr
end

end MythVerif.PiDag

namespace MythVerif.DagRec
open MythVerif.PiDag

/-- **the graph a dump describes**: vertices = the slots of the node array `T`; a leaf slot (an
    interval) weighs its `t_1` (the interval's length), a section / task slot weighs nothing (it has
    no edges); edges = the edge array `E` -/
def dumpGraph (G : PiDag) : DepGraph :=
  { dur := G.T.toList.map (fun x => if isLeaf x then x.info.c.t1 else 0), edges := G.E.toList }

theorem dumpGraph_n (G : PiDag) : (dumpGraph G).n = G.T.size := by
  simp [dumpGraph, DepGraph.n]

theorem dumpGraph_w (G : PiDag) (u : Nat) (h : u < G.T.size) :
    (dumpGraph G).w u = if isLeaf G.T[u]! then G.T[u]!.info.c.t1 else 0 := by
  simp [dumpGraph, DepGraph.w, h, getElem!_pos]

/-- a vertex renaming that preserves vertices, edges and weights carries paths to paths of the same weight -/
theorem DepGraph.map_chain (G H : DepGraph) (σ : Nat → Nat)
    (hv : ∀ a, a < G.n → σ a < H.n) (he : ∀ a b, a < G.n → b < G.n → G.Edge a b → H.Edge (σ a) (σ b))
    (hw : ∀ a, a < G.n → H.w (σ a) = G.w a) :
    ∀ (r : List Nat) (u : Nat), u < G.n → G.Chain u r →
      H.Chain (σ u) (r.map σ) ∧ H.pathWeight ((u :: r).map σ) = G.pathWeight (u :: r) := by
  intro r
  induction r with
  | nil => intro u hu _; exact ⟨trivial, by simp [DepGraph.pathWeight, hw u hu]⟩
  | cons b r ih =>
    intro u hu hc
    obtain ⟨hb, hub, hc'⟩ := hc
    obtain ⟨i1, i2⟩ := ih b hb hc'
    refine ⟨⟨hv b hb, he u b hu hb hub, i1⟩, ?_⟩
    rw [List.map_cons, DepGraph.pathWeight_cons, DepGraph.pathWeight_cons G u, i2, hw u hu]

theorem DepGraph.map_path (G H : DepGraph) (σ : Nat → Nat)
    (hv : ∀ a, a < G.n → σ a < H.n) (he : ∀ a b, a < G.n → b < G.n → G.Edge a b → H.Edge (σ a) (σ b))
    (hw : ∀ a, a < G.n → H.w (σ a) = G.w a) (p : List Nat) (hp : G.IsPath p) :
    H.IsPath (p.map σ) ∧ H.pathWeight (p.map σ) = G.pathWeight p := by
  cases p with
  | nil => exact absurd hp (fun h => h)
  | cons u r =>
    obtain ⟨h1, h2⟩ := DepGraph.map_chain G H σ hv he hw r u hp.1 hp.2
    exact ⟨⟨hv u hp.1, h1⟩, h2⟩

/-- in the dump of the uncontracted recording, no path through the edge array is heavier than the
    latest earliest-finish time, and some path attains it -/
theorem dump_longest_path (v : Variant) (sc : Nat) (t : Tree) (h : wnTask t = true) (sc' nw : Nat) :
    (dumpGraph (flatten sc' nw (record v {} sc t))).IsLongestPathWeight
      (maxFinish (leafInfosTree v t (rootCursor sc))) := by
  have hk := noContract_default v
  have hwt := wnAny_of_task h
  let d := record v {} sc t
  let G := flatten sc' nw d
  let S := leavesN d 0 1
  let σ : Nat → Nat := fun j => S.getD j 0
  let L := leafInfosTree v t (rootCursor sc)
  have hw := gTask_gW d (record_gram v {} sc t h)
  have hlay := flatten_lay sc' nw d
  have hlT := enumNodes_lay sc' d
  -- the edge array holds the edges of `depGraph t`, positions renamed to slots by `σ`
  have hperm : ∀ e, e ∈ G.E.toList ↔ e ∈ teN (kfOf (enumNodes sc' d).T) d 0 1 := by
    intro e
    rw [show G.E.toList = sortEdges (enumEdges (enumNodes sc' d).T) by simp [G, flatten, finishDag], mem_sortEdges]
    exact (enumEdges_perm _ d hlT.1 hlT.2 hw).mem_iff
  have hag : AgreeS σ 0 S := fun j hj => by simp [σ, hj]
  have hpairs : (teN (kfOf (enumNodes sc' d).T) d 0 1).map uv = (edgesT t 0).map (ren σ) :=
    teN_rec v _ hk _ σ t (rootCursor sc) 0 1 0 hwt hag
  -- slot `σ j` is a leaf of the array and holds `est` and `t_1` of the `j`-th interval
  have hinfo : Pw (fun s i => Sim G.T[s]!.info i) S L := by
    have := inf_leavesN G.T d 0 1 (flatten_inf sc' nw d)
    rwa [show linfoN d = L from linfoN_rec v _ hk t _ hwt] at this
  have hleaf : ∀ r ∈ S, isLeaf G.T[r]! = true ∧ r < G.T.size := fun r hr =>
    ⟨leavesN_isLeaf G.T d 0 1 hlay.1 hw r hr, by
      have := leavesN_in d 0 1 r hr
      simp only [InN] at this
      rw [hlay.2]; omega⟩
  have hpos : ∀ j (hj : j < L.length), σ j ∈ S ∧ Sim G.T[σ j]!.info L[j] := by
    intro j hj
    have hj' : j < S.length := by rw [hinfo.1]; exact hj
    rw [show σ j = S[j] by simp [σ, hj']]
    exact ⟨List.getElem_mem hj', hinfo.2 j hj' hj⟩
  have hwleaf : ∀ j (hj : j < L.length), (dumpGraph G).w (σ j) = L[j].c.t1 := by
    intro j hj
    obtain ⟨hm, hs⟩ := hpos j hj
    rw [dumpGraph_w G _ (hleaf _ hm).2, (hleaf _ hm).1, if_pos rfl, hs.2]
  have hlen : L.length = (leavesTree t).length := leafInfosTree_length v t _
  constructor
  · -- no path is heavier: the `est` in the leaf slots is a feasible potential
    let E' : Nat → Nat := fun u => if isLeaf G.T[u]! then G.T[u]!.info.c.est else 0
    have hE' : ∀ j (hj : j < L.length), E' (σ j) = L[j].c.est := by
      intro j hj
      obtain ⟨hm, hs⟩ := hpos j hj
      simp only [E', (hleaf _ hm).1, if_true, hs.1]
    have hagp : Agree (fun u => L[u]!.c.est) (fun u => L[u]!.c.t1) 0 L := by
      intro j hj
      simp [hj]
    refine DepGraph.path_le _ E' _ ?_ ?_
    · intro e he
      have : uv e ∈ (edgesT t 0).map (ren σ) := by
        rw [← hpairs]; exact List.mem_map_of_mem ((hperm e).mp he)
      obtain ⟨e0, he0, hq⟩ := List.mem_map.mp this
      simp only [ren, uv, Prod.mk.injEq] at hq
      obtain ⟨_, q2, q3, q4⟩ := feasT v _ _ t 0 (rootCursor sc) hwt hagp e0 he0
      have ha : e0.u < L.length := by omega
      have hb : e0.v < L.length := by omega
      rw [← hq.1, ← hq.2, hE' _ ha, hE' _ hb, hwleaf _ ha]
      simpa [ha, hb] using q4
    · intro x hx
      rw [dumpGraph_n] at hx
      rw [dumpGraph_w G x hx]
      by_cases hl : isLeaf G.T[x]! = true
      · have hxS : x ∈ S :=
          leaf_memN G.T d 0 1 hlay.1 hw x (by simp only [InN]; rw [hlay.2] at hx; omega) hl
        obtain ⟨j, hj, rfl⟩ := List.mem_iff_getElem.mp hxS
        have := hinfo.2 j hj (by rw [← hinfo.1]; exact hj)
        simp only [E', hl, if_true]
        rw [this.1, this.2]
        exact le_maxFinish L j _
      · simp [E', hl]
  · -- a path attains the value: the image of the longest path of `depGraph t`
    obtain ⟨p, hp, _, hpw⟩ := (maxFinish_is_longest_path v sc t h).2
    have hn : (depGraph t).n = L.length := by
      simp [DepGraph.n, depGraph, L, leafInfosTree_length]
    have := DepGraph.map_path (depGraph t) (dumpGraph G) σ
      (fun a ha => by rw [dumpGraph_n]; exact (hleaf _ (hpos a (by omega)).1).2)
      (fun a b _ _ hab => by
        obtain ⟨e0, he0, rfl, rfl⟩ := hab
        have : ren σ e0 ∈ (teN (kfOf (enumNodes sc' d).T) d 0 1).map uv := by
          rw [hpairs]; exact List.mem_map_of_mem he0
        obtain ⟨e, he, hq⟩ := List.mem_map.mp this
        simp only [ren, uv, Prod.mk.injEq] at hq
        exact ⟨e, (hperm e).mpr he, hq.1, hq.2⟩)
      (fun a ha => by
        rw [hn] at ha
        rw [hwleaf a ha]
        simp only [DepGraph.w, depGraph, ← leafInfosTree_t1 v t (rootCursor sc)]
        simp [L, ha])
      p hp
    exact ⟨p.map σ, this.1, by rw [this.2, hpw]⟩

end MythVerif.DagRec
