import MythVerif.Proofs.BarrierRel
import MythVerif.Proofs.BarrierCas
/-! Barrier: the invariant lifted to every state reachable by the participants, and helper lemmas
for the property theorems of `Properties/C06.lean`. -/
namespace MythVerif.Barrier
open MythVerif

/-- reachable by a label sequence in which only members of `P` act, on a barrier for `P.length` -/
def Reach (P : List Tid) (s : St) : Prop :=
  ∃ ls : List Lbl, WellUsed P ls ∧ runs (step P.length) init ls = some s

theorem inv_step (P : List Tid) (s s' : St) (l : Lbl) (h : Inv P s) (hP : l.actor ∈ P)
    (hs : step P.length s l = some s') : Inv P s' := by
  cases l with
  | read t v => exact p_read P s s' t v h hP hs
  | cas t ok => exact p_cas P s s' t ok h hP hs
  | reset t => exact p_reset P s s' t h hP hs
  | popRead t x => exact p_popRead P s s' t x h hP hs
  | popCas t ok => exact p_popCas P s s' t ok h hP hs
  | wakePush t x => exact p_wakePush P s s' t x h hP hs
  | ret t v => exact p_ret P s s' t v h hP hs
  | blockBegin t => exact p_blockBegin P s s' t h hP hs
  | pushRead t x => exact p_pushRead P s s' t x h hP hs
  | pushCas t ok => exact p_pushCas P s s' t ok h hP hs

theorem runs_wu (P : List Tid) (Q : St → Prop)
    (hstep : ∀ s s' l, Q s → l.actor ∈ P → step P.length s l = some s' → Q s') :
    ∀ (ls : List Lbl) (s s' : St), Q s → WellUsed P ls → runs (step P.length) s ls = some s' → Q s' := by
  intro ls
  induction ls with
  | nil => intro s s' h _ hr; simp [runs] at hr; subst hr; exact h
  | cons l ls ih =>
    intro s s' h hw hr
    simp only [runs] at hr
    split at hr
    · rename_i s1 h1
      exact ih s1 s' (hstep s s1 l h (hw l (by simp)) h1) (fun l' hl' => hw l' (by simp [hl'])) hr
    · simp at hr

/-- the invariant holds in every state reachable by the participants (any N ≥ 1, any number of
    rounds, any interleaving) -/
theorem reach_inv (P : List Tid) (hn : P.Nodup) (h0 : P ≠ []) (s : St) (h : Reach P s) : Inv P s := by
  obtain ⟨ls, hw, hr⟩ := h
  have h1 : 1 ≤ P.length := by
    cases P with
    | nil => exact absurd rfl h0
    | cons a r => simp
  exact runs_wu P (Inv P) (inv_step P) ls init s (inv_init P h1 hn) hw hr

theorem reach_step (P : List Tid) (s s' : St) (l : Lbl) (h : Reach P s) (hP : l.actor ∈ P)
    (hs : step P.length s l = some s') : Reach P s' := by
  obtain ⟨ls, hw, hr⟩ := h
  refine ⟨ls ++ [l], ?_, ?_⟩
  · intro l' hl'
    simp at hl'
    rcases hl' with h | h
    · exact hw l' h
    · subst h; exact hP
  · rw [runs_append, hr]; simp [runs, hs]

/-- where a participant stands: arrived in the current round, still in the previous one, or not yet arrived -/
theorem Inv.round {P : List Tid} {s : St} (h : Inv P s) {p : Tid} (hp : p ∈ P) :
    (p ∈ s.arrd ∧ s.rnd p = s.gen) ∨ (p ∈ s.old ∧ s.rnd p + 1 = s.gen) ∨
    (p ∉ s.arrd ∧ p ∉ s.old ∧ s.rnd p = s.gen ∧ prePc (s.pc p) = true) := by
  by_cases hpa : p ∈ s.arrd
  · exact Or.inl ⟨hpa, h.arrR p hpa⟩
  · by_cases hpo : p ∈ s.old
    · exact Or.inr (Or.inl ⟨hpo, h.oldR p hpo⟩)
    · exact Or.inr (Or.inr ⟨hpa, hpo, h.preC p hp hpa hpo⟩)

theorem Inv.ldr_none {P : List Tid} {s : St} (h : Inv P s) (hl : ∀ t, ldrPc (s.pc t) = false) : s.ldr = none := by
  cases hld : s.ldr with
  | none => rfl
  | some l => have := (h.ldrI l).mpr hld; rw [hl l] at this; cases this

/-- a returning thread is the releasing last arriver or a woken sleeper; either way it belongs to
    the previous generation -/
theorem ret_old (P : List Tid) (s s' : St) (t : Tid) (v : Nat) (hi : Inv P s)
    (hs : step P.length s (.ret t v) = some s') :
    t ∈ s.old ∧
    ((s.pc t = .lret ∧ v = SERIAL ∧ s.ldr = some t ∧ s'.serial (s.rnd t) = s.serial (s.rnd t) + 1) ∨
     (s.pc t = .woken ∧ v = 0 ∧ s.ldr ≠ some t ∧ s'.serial (s.rnd t) = s.serial (s.rnd t))) := by
  simp only [step] at hs
  split at hs
  · rename_i hc
    have hl := (hi.ldrI t).mp (by simp [hc.1, ldrPc])
    simp at hs; subst hs
    exact ⟨hi.ldrO t hl, Or.inl ⟨hc.1, hc.2, hl, by simp⟩⟩
  · split at hs
    · rename_i hc
      simp at hs; subst hs
      refine ⟨hi.wokO t hc.1, Or.inr ⟨hc.1, hc.2, ?_, by simp⟩⟩
      intro hl
      have := (hi.ldrI t).mpr hl
      simp [hc.1, ldrPc] at this
    · simp at hs

/-- program counters a thread can have when the barrier has a single participant -/
def n1Pc : PC → Bool
  | .idle | .retry | .rd _ | .lreset | .lret | .exited => true
  | _ => false

theorem n1_upd (pc : Tid → PC) (t : Tid) (x : PC) (h1 : ∀ u, n1Pc (pc u) = true) (hx : n1Pc x = true) :
    ∀ u, n1Pc (upd pc t x u) = true := by
  intro u; simp only [upd_apply]; split
  · exact hx
  · exact h1 u

theorem n1_step (P : List Tid) (hN : P.length = 1) (s s' : St) (l : Lbl) (hi : Inv P s)
    (h1 : ∀ t, n1Pc (s.pc t) = true) (hs : step P.length s l = some s') : ∀ t, n1Pc (s'.pc t) = true := by
  have hrd := hi.rdC
  rw [hN] at hs hrd
  have ha := h1 l.actor
  cases l
  case read t v =>
    simp only [step] at hs
    split at hs
    · split at hs <;> (simp at hs; subst hs; exact n1_upd _ _ _ h1 (by simp [n1Pc]))
    · simp at hs
  case cas t ok =>
    simp only [step] at hs
    split at hs
    · rename_i v hpc
      have := hrd t v hpc
      split at hs
      · split at hs
        · split at hs
          · simp at hs; subst hs; exact n1_upd _ _ _ h1 (by simp [n1Pc])
          · omega
        · simp at hs; subst hs; exact n1_upd _ _ _ h1 (by simp [n1Pc])
      · simp at hs
    · simp at hs
  case reset t =>
    simp only [step] at hs
    split at hs
    · simp at hs; subst hs; exact n1_upd _ _ _ h1 (by simp [n1Pc])
    · simp at hs
  case ret t v =>
    simp only [step] at hs
    split at hs
    · simp at hs; subst hs; exact n1_upd _ _ _ h1 (by simp [n1Pc])
    · split at hs
      · rename_i hc; simp [Lbl.actor, hc.1, n1Pc] at ha
      · simp at hs
  -- every other label needs a program counter that a single participant never reaches
  all_goals
    simp only [step] at hs
    split at hs
    · rename_i hpc; simp [Lbl.actor, hpc, n1Pc] at ha
    · cases hs

end MythVerif.Barrier
