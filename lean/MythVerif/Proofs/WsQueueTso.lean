import MythVerif.Proofs.WsQueueTsoStepT
import MythVerif.Proofs.WsQueueTsoStepO
import MythVerif.Proofs.WsQueueTsoFlushT
import MythVerif.Proofs.WsQueueTsoFlush
/-! The TSO invariant is inductive; it holds in every reachable state of the store-buffer machine
    with the fences of the source. -/
namespace MythVerif.WsqTso
open MythVerif.Wsq

theorem callO_inv (s s' : St) (pc : OPc) (hpc : (∃ e, pc = .pu0 e) ∨ pc = .pq ∨ pc = .cll ∨ (∃ e, pc = .ptl e)) :
    Inv s → (match s.opc with | .idle => some { s with opc := pc } | _ => none) = some s' → Inv s' := by
  intro h hs
  split at hs
  · rename_i heq
    simp at hs; subst hs
    have g := h.glob
    have ho := h.ownerAt
    rw [heq] at ho
    -- the new program counter is of the class of `idle` and has its clause
    refine h.owner_step rfl rfl ?_ ?_ fun p hp hat =>
      hat.frame rfl rfl rfl (fun _ _ => rfl) fun _ hA hw => ⟨hA, rfl, rfl, ?_⟩
    · rcases hpc with ⟨e, rfl⟩ | rfl | rfl | ⟨e, rfl⟩ <;> tso_glob_owner g heq []
    · rcases hpc with ⟨e, rfl⟩ | rfl | rfl | ⟨e, rfl⟩ <;> exact ho
    · rw [heq] at hw
      rcases hpc with ⟨e, rfl⟩ | rfl | rfl | ⟨e, rfl⟩ <;> exact Or.inl (hw.resolve_right fun h => by cases h.1)
  · simp at hs

theorem callT_inv (s s' : St) (p : Pid) (pc : TPc) (hpc : pc = .tq0 ∨ pc = .kq0 ∨ pc = .wq0 ∨ pc = .vq0 ∨ ∃ e, pc = .tpl e) :
    Inv s → (match s.tpc p with | .idle => some { s with tpc := upd s.tpc p pc } | _ => none) = some s' → Inv s' := by
  intro h hs
  split at hs
  · rename_i heq
    simp at hs; subst hs
    have hb : s.bufT p = [] := by have := h.thiefAt p; rwa [heq] at this
    rcases hpc with rfl | rfl | rfl | rfl | ⟨e, rfl⟩
    all_goals exact h.thief_move heq rfl rfl rfl (fun _ _ => rfl) hb
  · simp at hs

/-- a drain from the buffer of a thief / passer -/
theorem f_T (s s' : St) (p : Pid) : Inv s → step s (.flushT p) = some s' → Inv s' := by
  intro h hs
  simp only [step] at hs
  split at hs
  · rename_i st rest hb
    obtain ⟨hl, hcase⟩ := thief_buf_shape s h p st rest hb
    simp at hs; subst hs
    rcases hcase with ⟨b, hpc, rfl, rfl, hlb, htr⟩ | ⟨hpc, rfl, rfl, htr⟩ | ⟨e, hpc, rfl, rfl⟩ |
      ⟨e, ok, hpc, rfl, rfl⟩ | ⟨e, ok, hpc, rfl, rfl, hp⟩ | ⟨x, rfl, hc⟩
    · exact f_T_inc s p b h hl hb hpc hlb htr
    · exact f_T_rb s p h hl hb hpc htr
    · exact f_T_ptr s p e [] h hl hb (Or.inl hpc)
    · exact f_T_ptr s p e _ h hl hb (Or.inr ⟨ok, hpc⟩)
    · exact f_T_baseI s p e ok h hl hb hpc hp
    · exact f_T_cache s p x rest h hl hb hc
  · simp at hs

theorem flushO_inv (s s' : St) : Inv s → step s .flushO = some s' → Inv s' := by
  intro h hs
  simp only [step] at hs
  split at hs
  · rename_i st rest hb
    simp at hs
    cases st with
    | top v => exact f_O_top s s' v rest h hb hs.symm
    | base v => exact f_O_base s s' v rest h hb hs.symm
    | ptr i x => exact f_O_ptr s s' i x rest h hb hs.symm
    | unlock => exact f_O_unlock s s' rest h hb hs.symm
    | baseI v e => exact f_O_baseI s s' v e rest h hb hs.symm
    | shift lo hi off => exact f_O_shift s s' lo hi off rest h hb hs.symm
    | cache x => exact f_O_cache s s' x rest h hb hs.symm
  · simp at hs

theorem step_inv (s : St) (l : Lbl) (s' : St) : Inv s → step s l = some s' → Inv s' := by
  intro h hs
  cases l with
  | oPush e => exact callO_inv s s' _ (Or.inl ⟨e, rfl⟩) h hs
  | oPop => exact callO_inv s s' _ (Or.inr (Or.inl rfl)) h hs
  | oPut e => exact callO_inv s s' _ (Or.inr (Or.inr (Or.inr ⟨e, rfl⟩))) h hs
  | oClear => exact callO_inv s s' _ (Or.inr (Or.inr (Or.inl rfl))) h hs
  | o => exact stepO_inv s s' h hs
  | flushO => exact flushO_inv s s' h hs
  | tTake p => exact callT_inv s s' p _ (Or.inl rfl) h hs
  | tPass p e => exact callT_inv s s' p _ (Or.inr (Or.inr (Or.inr (Or.inr ⟨e, rfl⟩)))) h hs
  | tPeek p => exact callT_inv s s' p _ (Or.inr (Or.inl rfl)) h hs
  | tWTake p => exact callT_inv s s' p _ (Or.inr (Or.inr (Or.inl rfl))) h hs
  | tWPeek p => exact callT_inv s s' p _ (Or.inr (Or.inr (Or.inr (Or.inl rfl)))) h hs
  | tDecide p a => exact stepD_inv s s' p a h hs
  | t p => exact stepT_inv s s' p h hs
  | flushT p => exact f_T s s' p h hs

theorem init_inv (n : Int) : Inv (init FenceCfg.code n) := by
  constructor
  all_goals simp [init, ownerLocked, thiefLocked, carry, mayBuf, notTrans, resetting, ownerFlight, thiefFlight, CarryShape]

/-- the invariant holds in every reachable state of the TSO machine with the code's fences -/
theorem reachable_inv (n : Int) (s : St) (h : Reachable step (init FenceCfg.code n) s) : Inv s :=
  inv_reachable step (init FenceCfg.code n) Inv (init_inv n) step_inv s h

end MythVerif.WsqTso
