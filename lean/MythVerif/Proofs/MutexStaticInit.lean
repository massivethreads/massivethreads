import MythVerif.Model.MutexStaticInit
/-!
Inductive invariant of the static-initialiser conversion model and its consequences
(`MythVerif.SInit`); lifted with `inv_reachable`.
-/
namespace MythVerif.SInit
open MythVerif

/-- the memory's first word is not one of the two magic numbers -/
def Raw (z : Nat) : Prop := z ≠ mNo ∧ z ≠ mIni

structure Inv (z : Nat) (s : St) : Prop where
  magic3 : s.magic = z ∨ s.magic = mIni ∨ s.magic = mNo
  c0 : s.convs = 0 ↔ s.magic = z
  c1 : s.convs ≤ 1
  cv0 : s.converter = none ↔ s.convs = 0
  own : ∀ t, converting (s.pc t) = true → s.converter = some t
  ini : ∀ w, s.converter = some w → (converting (s.pc w) = true ↔ s.magic = mIni)
  body : ∀ t, s.pc t = .body → s.magic = mNo
  chk : ∀ t, s.pc t = .chk → s.magic = mNo
  spin : ∀ t, s.pc t = .spin → s.convs = 1
  rd : ∀ t v, s.pc t = .rd v → v ≠ mNo ∧ (v = z ∨ (v = mIni ∧ s.convs = 1))
  won : ∀ t a q st m, s.pc t = .won a q st m →
          (a = true → s.atype = dfltType) ∧ (q = true → s.qEmpty = true) ∧ (st = true → s.mstate = 0)
  fen : ∀ t, s.pc t = .fenced → s.atype = dfltType ∧ s.qEmpty = true ∧ s.mstate = 0
  pub : s.magic = mNo → s.pubFresh = true
  fresh0 : s.magic = mNo → s.bodySteps = 0 → s.atype = dfltType ∧ s.qEmpty = true ∧ s.mstate = 0
  bs : s.magic ≠ mNo → s.bodySteps = 0

theorem inv_init (z a : Nat) (q : Bool) (st : Nat) (hz : Raw z) : Inv z (init z a q st) := by
  obtain ⟨h1, h2⟩ := hz
  constructor <;> simp [init, converting] <;> grind

theorem fresh_iff (s : St) : s.fresh = true ↔ s.atype = dfltType ∧ s.qEmpty = true ∧ s.mstate = 0 := by
  simp [St.fresh, and_assoc]

/-- what the invariant says of thread `t` when its program counter is `p` -/
def At (z : Nat) (s : St) (t : Tid) (p : PC) : Prop :=
  (converting p = true → s.converter = some t) ∧
  (s.converter = some t → (converting p = true ↔ s.magic = mIni)) ∧
  (p = .body → s.magic = mNo) ∧ (p = .chk → s.magic = mNo) ∧ (p = .spin → s.convs = 1) ∧
  (∀ v, p = .rd v → v ≠ mNo ∧ (v = z ∨ (v = mIni ∧ s.convs = 1))) ∧
  (∀ a q st m, p = .won a q st m →
    (a = true → s.atype = dfltType) ∧ (q = true → s.qEmpty = true) ∧ (st = true → s.mstate = 0)) ∧
  (p = .fenced → s.atype = dfltType ∧ s.qEmpty = true ∧ s.mstate = 0)

theorem Inv.at {z : Nat} {s : St} (hi : Inv z s) (u : Tid) : At z s u (s.pc u) :=
  ⟨hi.own u, hi.ini u, hi.body u, hi.chk u, hi.spin u, hi.rd u, hi.won u, hi.fen u⟩

/-- A step of `t`: the clauses about the shared words are shown of the new state, and so is what the new pc of `t`
    says; of another thread it is enough that what its pc said stays true. -/
theorem Inv.step {z : Nat} {s : St} (hi : Inv z s) (t : Tid) (p' : PC) (s' : St) (hpc : s'.pc = upd s.pc t p')
    (magic3 : s'.magic = z ∨ s'.magic = mIni ∨ s'.magic = mNo) (c0 : s'.convs = 0 ↔ s'.magic = z)
    (c1 : s'.convs ≤ 1) (cv0 : s'.converter = none ↔ s'.convs = 0) (pub : s'.magic = mNo → s'.pubFresh = true)
    (fresh0 : s'.magic = mNo → s'.bodySteps = 0 → s'.atype = dfltType ∧ s'.qEmpty = true ∧ s'.mstate = 0)
    (bs : s'.magic ≠ mNo → s'.bodySteps = 0) (h : At z s' t p')
    (frame : ∀ u, u ≠ t → At z s u (s.pc u) → At z s' u (s.pc u)) : Inv z s' := by
  have hat : ∀ u, At z s' u (s'.pc u) := fun u => by
    rw [hpc, upd_apply]; split
    · subst u; exact h
    · exact frame u ‹_› (hi.at u)
  exact { magic3, c0, c1, cv0, pub, fresh0, bs
          own := fun u => (hat u).1, ini := fun u => (hat u).2.1, body := fun u => (hat u).2.2.1
          chk := fun u => (hat u).2.2.2.1, spin := fun u => (hat u).2.2.2.2.1, rd := fun u => (hat u).2.2.2.2.2.1
          won := fun u => (hat u).2.2.2.2.2.2.1, fen := fun u => (hat u).2.2.2.2.2.2.2 }

theorem Inv.move {z : Nat} {s : St} (hi : Inv z s) (t : Tid) (p' : PC) (h : At z s t p') :
    Inv z { s with pc := upd s.pc t p' } :=
  hi.step t p' _ rfl hi.magic3 hi.c0 hi.c1 hi.cv0 hi.pub hi.fresh0 hi.bs h fun _ _ h => h

theorem inv_step {z : Nat} (hz : Raw z) (s : St) (l : Lbl) (s' : St) (hi : Inv z s) (hs : step s l = some s') : Inv z s' := by
  obtain ⟨h1, h2⟩ := hz
  have hne := mNo_ne_mIni
  cases l with
  | bodyStep t a b =>
    simp only [step] at hs; (repeat' split at hs) <;> cases hs
    -- a thread is in the body, so the word is `magic_no` and nobody is converting
    have hb := hi.body t ‹_›
    have hnoconv : ∀ u, converting (s.pc u) = false := by
      intro u
      cases hcu : converting (s.pc u) with
      | false => rfl
      | true => exact absurd ((hb ▸ (hi.ini u (hi.own u hcu)).mp hcu) : mNo = mIni) hne
    -- a clause not named carries over as it is: the step writes nothing it reads; below, the `have`s hand `grind`
    -- the old clauses that the named ones follow from
    exact { hi with
      won := by grind [converting]
      fen := by grind [converting]
      fresh0 := by simp
      bs := by simp [hb] }
  | read t v | skipCas t | fence t | spinRead t v | assertRead t v | leave t =>
    simp only [step] at hs; (repeat' split at hs) <;> cases hs <;> try exact hi
    all_goals
      have := hi.magic3; have := hi.c0; have := hi.c1; have := hi.own t; have := hi.ini t; have := hi.chk t
      have := hi.spin t; have := hi.rd t; have := hi.won t
      exact hi.move t _ (by grind [At, converting])
  | copyWord t w | publish t =>
    simp only [step] at hs; (repeat' split at hs) <;> cases hs
    all_goals
      -- `t` is the converter and the word reads `initializing`
      have hcv : converting (s.pc t) = true := by simp [*, converting]
      have hct := hi.own t hcv
      have hmi := (hi.ini t hct).mp hcv
      have := hi.c0; have := hi.bs; have := hi.fen t; have := hi.won t; have := fresh_iff s
      -- another thread is not converting, so what its pc says does not read the words written here
      exact hi.step t _ _ rfl (by simp [hmi]) (by grind) hi.c1 hi.cv0 (by grind) (by grind) (by grind)
        (by grind [At, converting]) (fun u hu => by have := hi.own u; grind [At])
  | cas t ok =>
    simp only [step] at hs; (repeat' split at hs) <;> cases hs
    all_goals
      rename_i v hp hg _
      have hrd := hi.rd t v hp
      have c0 := hi.c0
    · -- the word still held the raw value: first and only conversion
      have hm : s.magic = z := by grind
      have hc0 : s.convs = 0 := c0.mpr hm
      have hnone : s.converter = none := hi.cv0.mpr hc0
      have := hi.bs
      -- nobody else is converting, and nobody is in the body or at `spin`, since no conversion has begun
      exact hi.step t _ _ rfl (by simp) (by simp [Ne.symm h2]) (by simp [hc0]) (by simp) (by simp [Ne.symm hne])
        (by simp [Ne.symm hne]) (by grind) (by grind [At, converting])
        (fun u hu => by have := hi.own u; grind [At])
    · have := hi.c1; have := hi.own t; have := hi.ini t
      exact hi.move t _ (by grind [At, converting])

theorem reachable_inv {z a : Nat} {q : Bool} {st : Nat} (hz : Raw z) (s : St)
    (h : Reachable step (init z a q st) s) : Inv z s :=
  inv_reachable step (init z a q st) (Inv z) (inv_init z a q st hz) (inv_step hz) s h

theorem convs_step (s s' : St) (l : Lbl) (hs : step s l = some s') :
    s'.convs = s.convs + (if isWin l = true then 1 else 0) := by
  cases l <;> simp only [step] at hs <;> (repeat' split at hs) <;> simp at hs <;> (try subst hs) <;> simp_all [isWin]

theorem convs_runs (ls : List Lbl) (s0 s : St) (h : runs step s0 ls = some s) :
    s.convs = s0.convs + ls.countP isWin := by
  induction ls generalizing s0 with
  | nil => simp [runs] at h; subst h; simp
  | cons l ls ih =>
    simp only [runs] at h
    split at h
    · rename_i s1 h1
      have := ih s1 h
      have h2 := convs_step s0 s1 l h1
      rw [List.countP_cons]
      split at h2 <;> simp_all <;> omega
    · simp at h

/-- the magic word becomes `magic_no` exactly by a `publish` label and never changes afterwards -/
theorem magic_step {z : Nat} (hz : Raw z) (s s' : St) (l : Lbl) (hi : Inv z s) (hs : step s l = some s') :
    (isPublish l = true ∧ s.magic ≠ mNo ∧ s'.magic = mNo) ∨
    (isPublish l = false ∧ (s'.magic = mNo ↔ s.magic = mNo)) := by
  obtain ⟨h1, h2⟩ := hz
  have hne := mNo_ne_mIni
  cases l with
  | publish t =>
    left
    simp only [step] at hs
    split at hs
    · rename_i hp
      simp at hs; subst hs
      have hcv : converting (s.pc t) = true := by rw [hp]; rfl
      have hmi := (hi.ini t (hi.own t hcv)).mp hcv
      refine ⟨rfl, ?_, rfl⟩
      rw [hmi]; exact fun h => hne h.symm
    · simp at hs
  | cas t ok =>
    right
    refine ⟨rfl, ?_⟩
    simp only [step] at hs
    split at hs
    · rename_i v hp
      split at hs
      · rename_i hc
        split at hs
        · simp at hs; subst hs
          rename_i hok1
          have hm : s.magic = v := by have := hc.2; simp [hok1] at this; exact this
          have := (hi.rd t v hp).1
          simp; constructor
          · intro h; exact absurd h.symm hne
          · intro h; rw [hm] at h; exact absurd h this
        · simp at hs; subst hs; rfl
      · simp at hs
    · simp at hs
  | copyWord t w =>
    right
    refine ⟨rfl, ?_⟩
    simp only [step] at hs
    split at hs
    all_goals first
      | (simp at hs; done)
      | (rename_i hp
         simp at hs; subst hs
         have hcv : converting (s.pc t) = true := by rw [hp]; rfl
         have hmi := (hi.ini t (hi.own t hcv)).mp hcv
         simp [hmi])
  | read t v | skipCas t | fence t | spinRead t v | assertRead t v | bodyStep t a b | leave t =>
    right; refine ⟨rfl, ?_⟩; simp only [step] at hs; (repeat' split at hs) <;> cases hs <;> rfl

theorem publishes_runs {z : Nat} (hz : Raw z) (ls : List Lbl) (s0 s : St) (hi : Inv z s0)
    (h : runs step s0 ls = some s) :
    ls.countP isPublish + (if s0.magic = mNo then 1 else 0) = (if s.magic = mNo then 1 else 0) := by
  induction ls generalizing s0 with
  | nil => simp [runs] at h; subst h; simp
  | cons l ls ih =>
    simp only [runs] at h
    split at h
    · rename_i s1 h1
      have := ih s1 (inv_step hz s0 l s1 hi h1) h
      rw [List.countP_cons]
      rcases magic_step hz s0 s1 l hi h1 with ⟨a, b, c⟩ | ⟨a, b⟩
      · simp [a, b, c] at this ⊢; omega
      · by_cases hm : s0.magic = mNo
        · have := b.mpr hm; simp_all
        · have : s1.magic ≠ mNo := fun h => hm (b.mp h)
          simp_all
    · simp at h

/-- a label on which the handler returns leaves its actor inside the mutex body -/
theorem entersBody_pc (s s' : St) (l : Lbl) (hs : step s l = some s') (he : entersBody l = true) :
    s'.pc l.actor = .body := by
  cases l <;> simp [entersBody] at he <;> simp only [step] at hs <;> (repeat' split at hs) <;> simp at hs <;>
    (try subst hs) <;> simp_all [Lbl.actor]

/-- what a step may write besides the magic word, the program counters and the ghosts: a word store
    of the converter's `*m = mi` writes type, queue or state; a mutex-body access writes state and queue -/
theorem step_writes (s s' : St) (l : Lbl) (hs : step s l = some s') :
    (s'.atype = s.atype ∧ s'.mstate = s.mstate ∧ s'.qEmpty = s.qEmpty) ∨
    (∃ t w, l = .copyWord t w ∧ converting (s.pc t) = true) ∨
    (s'.atype = s.atype ∧ ∃ t v b, l = .bodyStep t v b ∧ s.pc t = .body) := by
  cases l with
  | copyWord t w =>
    refine Or.inr (Or.inl ⟨t, w, rfl, ?_⟩)
    cases hp : s.pc t <;> simp [step, hp] at hs <;> rfl
  | bodyStep t v b =>
    simp only [step] at hs
    split at hs
    · simp at hs; subst hs; exact Or.inr (Or.inr ⟨rfl, t, v, b, rfl, ‹_›⟩)
    · simp at hs
  | _ =>
    refine Or.inl ?_
    simp only [step] at hs
    (repeat' split at hs) <;> simp at hs <;> subst hs <;> exact ⟨rfl, rfl, rfl⟩

end MythVerif.SInit
