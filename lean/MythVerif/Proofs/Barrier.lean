import MythVerif.Model.Barrier
/-! Inductive invariant of the barrier model (for an arbitrary participant list `P`, `N = P.length`), cut into
`Glob` and one `At` per thread, and its preservation by the labels that move one program counter
(`p_blockBegin`, `p_pushRead`, `p_popRead`, `p_read`, `p_pushCas`).  The counting labels `p_cas`, `p_popCas` are
in `BarrierCas.lean`, the release and return labels in `BarrierRel.lean`, `inv_step` in `BarrierReach.lean`. -/
namespace MythVerif.Barrier

/-- pigeonhole: a duplicate-free list inside a duplicate-free list of at most the same length covers it -/
theorem pigeon {l m : List Tid} (hl : l.Nodup) (hs : ∀ x, x ∈ l → x ∈ m)
    (hlen : m.length ≤ l.length) : ∀ x, x ∈ m → x ∈ l := by
  intro x hx
  apply Classical.byContradiction
  intro hxl
  have hsub : l ⊆ m.erase x := by
    intro y hy
    have hyx : y ≠ x := by intro e; subst e; exact hxl hy
    exact (List.mem_erase_of_ne hyx).mpr (hs y hy)
  have h1 := List.Nodup.length_le_of_subset hl hsub
  rw [List.length_erase_of_mem hx] at h1
  have : 0 < m.length := List.length_pos_of_mem hx
  omega

theorem nodup_len1 {l : List Tid} (hl : l.Nodup) (h1 : l.length ≤ 1) {a b : Tid} (ha : a ∈ l) (hb : b ∈ l) :
    a = b := by
  match l, hl, h1, ha, hb with
  | [x], _, _, ha, hb => simp at ha hb; rw [ha, hb]
  | _ :: _ :: _, _, h1, _, _ => simp at h1

/-- with a duplicate-free stack, a recorded `x :: nx` that is still a suffix and whose `x` is the
    current top *is* the stack: no ABA -/
theorem suffix_head_eq {st nx : List Tid} {x : Tid} (hn : st.Nodup) (hs : (x :: nx) <:+ st)
    (hh : st.head? = some x) : st = x :: nx := by
  obtain ⟨ys, hys⟩ := hs
  cases ys with
  | nil => simpa using hys.symm
  | cons y ys' =>
    subst hys
    simp at hh
    subst hh
    simp [List.nodup_cons] at hn

structure Inv (P : List Tid) (s : St) : Prop where
  nP    : 1 ≤ P.length
  ndP   : P.Nodup
  np    : ∀ t, t ∉ P → s.pc t = .idle
  arrP  : ∀ t, t ∈ s.arrd → t ∈ P
  arrR  : ∀ t, t ∈ s.arrd → s.rnd t = s.gen
  arrB  : ∀ t, t ∈ s.arrd → blkPc (s.pc t) = true
  arrN  : s.arrd.Nodup
  oldP  : ∀ t, t ∈ s.old → t ∈ P
  oldR  : ∀ t, t ∈ s.old → s.rnd t + 1 = s.gen
  oldN  : s.old.Nodup
  oldPc : ∀ t, t ∈ s.old → blkPc (s.pc t) = true ∨ s.pc t = .woken ∨ s.ldr = some t
  -- in neither list: returned from the previous round, not yet arrived in this one
  preC  : ∀ t, t ∈ P → t ∉ s.arrd → t ∉ s.old → s.rnd t = s.gen ∧ prePc (s.pc t) = true
  wokO  : ∀ t, s.pc t = .woken → t ∈ s.old
  ldrI  : ∀ t, ldrPc (s.pc t) = true ↔ s.ldr = some t
  ldrO  : ∀ t, s.ldr = some t → t ∈ s.old
  cnt   : s.count = s.arrd.length + (if s.rst = true then P.length else 0)
  arrL  : s.arrd.length + 1 ≤ P.length  -- the N-th arrival moves everybody to `old`
  rstL  : ∀ t, s.ldr = some t → (s.rst = true ↔ s.pc t = .lreset)
  rstN  : s.ldr = none → s.rst = false
  rdC   : ∀ t v, s.pc t = .rd v → v < P.length
  noEx  : ∀ t, s.pc t ≠ .exited
  stN   : s.stack.Nodup
  stA   : ∀ t, t ∈ s.stack → s.pc t = .asleep
  stW   : ∀ t, t ∈ s.stack → t ∉ s.wk
  wkA   : ∀ t, t ∈ s.wk → s.pc t = .asleep
  wkO   : ∀ t, t ∈ s.wk → t ∈ s.old
  wkN   : s.wk.Nodup
  asl   : ∀ t, s.pc t = .asleep → t ∈ s.stack ∨ t ∈ s.wk
  wkL   : s.ldr = none → s.wk = []
  -- while the releaser may still pop, all N are in `old` and the others are blocked: whoever is on the stack
  -- stays there and nobody else pops, which is what rules out an ABA at the pop CAS
  popA  : ∀ t, popPc (s.pc t) = true → s.arrd = [] ∧ s.old.length = P.length ∧ s.pushed (s.rnd t) = 0
  popC  : ∀ t, popPc (s.pc t) = true → ∀ p, p ∈ s.old → p ≠ t → blkPc (s.pc p) = true
  lrsA  : ∀ t, s.pc t = .lreset → s.wk = []
  lpoA  : ∀ t acc, s.pc t = .lpop acc → s.wk = acc ∧ acc.length + 1 < P.length
  -- pushes go on top, so what the popper read stays a suffix of the stack
  lpcA  : ∀ t x nx acc, s.pc t = .lpopc x nx acc → s.wk = acc ∧ acc.length + 1 < P.length ∧ (x :: nx) <:+ s.stack
  -- handed over + still to hand over + the releaser = N
  lpuA  : ∀ t rem, s.pc t = .lpush rem → s.wk = rem ∧ rem ≠ [] ∧ s.pushed (s.rnd t) + rem.length + 1 = P.length
  lreA  : ∀ t, s.pc t = .lret → s.wk = [] ∧ s.pushed (s.rnd t) + 1 = P.length
  pshC  : ∀ t, (s.pc t = .lret ∨ ∃ rem, s.pc t = .lpush rem) → ∀ p, p ∈ s.old → p ≠ t → s.pc p = .woken ∨ p ∈ s.wk
  oldW  : s.ldr = none → ∀ p, p ∈ s.old → s.pc p = .woken  -- release over: they have only to return
  -- ghost counters, per round: complete below `gen - 1`, in progress at `gen - 1` (returns) and `gen` (arrivals)
  arrLt : ∀ k, k < s.gen → s.arr k = P.length
  arrEq : s.arr s.gen = s.arrd.length
  arrGt : ∀ k, s.gen < k → s.arr k = 0
  retLt : ∀ k, k + 1 < s.gen → s.retd k = P.length ∧ s.serial k = 1 ∧ s.pushed k + 1 = P.length
  retEq : ∀ k, k + 1 = s.gen → s.retd k + s.old.length = P.length ∧
            s.serial k = (if s.ldr = none then 1 else 0) ∧ (s.ldr = none → s.pushed k + 1 = P.length)
  retGe : ∀ k, s.gen ≤ k → s.retd k = 0 ∧ s.serial k = 0 ∧ s.pushed k = 0

theorem inv_init (P : List Tid) (h1 : 1 ≤ P.length) (hn : P.Nodup) : Inv P init := by
  constructor <;> simp [init, prePc, blkPc, ldrPc, popPc, h1, hn]

/-- the clauses of `Inv` that speak about one thread `u`, with its program counter as a parameter -/
structure At (P : List Tid) (s : St) (u : Tid) (pc : PC) : Prop where
  np    : u ∉ P → pc = .idle
  arrB  : u ∈ s.arrd → blkPc pc = true
  oldPc : u ∈ s.old → blkPc pc = true ∨ pc = .woken ∨ s.ldr = some u
  preC  : u ∈ P → u ∉ s.arrd → u ∉ s.old → s.rnd u = s.gen ∧ prePc pc = true
  wokO  : pc = .woken → u ∈ s.old
  ldrI  : ldrPc pc = true ↔ s.ldr = some u
  rstL  : s.ldr = some u → (s.rst = true ↔ pc = .lreset)
  rdC   : ∀ v, pc = .rd v → v < P.length
  noEx  : pc ≠ .exited
  stA   : u ∈ s.stack → pc = .asleep
  wkA   : u ∈ s.wk → pc = .asleep
  asl   : pc = .asleep → u ∈ s.stack ∨ u ∈ s.wk
  popA  : popPc pc = true → s.arrd = [] ∧ s.old.length = P.length ∧ s.pushed (s.rnd u) = 0
  lrsA  : pc = .lreset → s.wk = []
  lpoA  : ∀ acc, pc = .lpop acc → s.wk = acc ∧ acc.length + 1 < P.length
  lpcA  : ∀ x nx acc, pc = .lpopc x nx acc → s.wk = acc ∧ acc.length + 1 < P.length ∧ (x :: nx) <:+ s.stack
  lpuA  : ∀ rem, pc = .lpush rem → s.wk = rem ∧ rem ≠ [] ∧ s.pushed (s.rnd u) + rem.length + 1 = P.length
  lreA  : pc = .lret → s.wk = [] ∧ s.pushed (s.rnd u) + 1 = P.length
  oldW  : s.ldr = none → u ∈ s.old → pc = .woken

/-- the remaining clauses: those that read no program counter, and the two that relate the last
    arriver's phase to the other participants -/
structure Glob (P : List Tid) (s : St) : Prop where
  nP    : 1 ≤ P.length
  ndP   : P.Nodup
  arrP  : ∀ t, t ∈ s.arrd → t ∈ P
  arrR  : ∀ t, t ∈ s.arrd → s.rnd t = s.gen
  arrN  : s.arrd.Nodup
  oldP  : ∀ t, t ∈ s.old → t ∈ P
  oldR  : ∀ t, t ∈ s.old → s.rnd t + 1 = s.gen
  oldN  : s.old.Nodup
  ldrO  : ∀ t, s.ldr = some t → t ∈ s.old
  cnt   : s.count = s.arrd.length + (if s.rst = true then P.length else 0)
  arrL  : s.arrd.length + 1 ≤ P.length
  rstN  : s.ldr = none → s.rst = false
  stN   : s.stack.Nodup
  stW   : ∀ t, t ∈ s.stack → t ∉ s.wk
  wkO   : ∀ t, t ∈ s.wk → t ∈ s.old
  wkN   : s.wk.Nodup
  wkL   : s.ldr = none → s.wk = []
  popC  : ∀ t, popPc (s.pc t) = true → ∀ p, p ∈ s.old → p ≠ t → blkPc (s.pc p) = true
  pshC  : ∀ t, (s.pc t = .lret ∨ ∃ rem, s.pc t = .lpush rem) → ∀ p, p ∈ s.old → p ≠ t → s.pc p = .woken ∨ p ∈ s.wk
  arrLt : ∀ k, k < s.gen → s.arr k = P.length
  arrEq : s.arr s.gen = s.arrd.length
  arrGt : ∀ k, s.gen < k → s.arr k = 0
  retLt : ∀ k, k + 1 < s.gen → s.retd k = P.length ∧ s.serial k = 1 ∧ s.pushed k + 1 = P.length
  retEq : ∀ k, k + 1 = s.gen → s.retd k + s.old.length = P.length ∧
            s.serial k = (if s.ldr = none then 1 else 0) ∧ (s.ldr = none → s.pushed k + 1 = P.length)
  retGe : ∀ k, s.gen ≤ k → s.retd k = 0 ∧ s.serial k = 0 ∧ s.pushed k = 0

theorem Inv.glob {P s} (h : Inv P s) : Glob P s := { h with }

theorem Inv.at {P s} (h : Inv P s) (u : Tid) : At P s u (s.pc u) :=
  ⟨h.np u, h.arrB u, h.oldPc u, h.preC u, h.wokO u, h.ldrI u, h.rstL u, h.rdC u, h.noEx u, h.stA u, h.wkA u, h.asl u,
   h.popA u, h.lrsA u, h.lpoA u, h.lpcA u, h.lpuA u, h.lreA u, fun hl => h.oldW hl u⟩

theorem Inv.of {P s} (g : Glob P s) (l : ∀ u, At P s u (s.pc u)) : Inv P s :=
  { g with
    np := fun u => (l u).np, arrB := fun u => (l u).arrB, oldPc := fun u => (l u).oldPc, preC := fun u => (l u).preC,
    wokO := fun u => (l u).wokO, ldrI := fun u => (l u).ldrI, rstL := fun u => (l u).rstL, rdC := fun u => (l u).rdC,
    noEx := fun u => (l u).noEx, stA := fun u => (l u).stA, wkA := fun u => (l u).wkA, asl := fun u => (l u).asl,
    popA := fun u => (l u).popA, lrsA := fun u => (l u).lrsA, lpoA := fun u => (l u).lpoA, lpcA := fun u => (l u).lpcA,
    lpuA := fun u => (l u).lpuA, lreA := fun u => (l u).lreA, oldW := fun hl u => (l u).oldW hl }

theorem at_upd {P s'} {pc : Tid → PC} {t : Tid} {x : PC} (ht : At P s' t x) (ho : ∀ u, u ≠ t → At P s' u (pc u)) :
    ∀ u, At P s' u (upd pc t x u) := by
  intro u
  by_cases hu : u = t
  · subst hu; rw [upd_same]; exact ht
  · rw [upd_other _ _ _ _ hu]; exact ho u hu


/-- in the window between the last CAS and the reset every participant is in `old` -/
theorem all_old_of_len {P : List Tid} {s : St} (holdP : ∀ t, t ∈ s.old → t ∈ P) (holdN : s.old.Nodup)
    (hlen : s.old.length = P.length) : ∀ p, p ∈ P → p ∈ s.old :=
  pigeon holdN holdP (by omega)

/-- only participants are ever inside `wait` -/
theorem Inv.mem_P {P : List Tid} {s : St} (h : Inv P s) {x : Tid} (hx : s.pc x ≠ .idle) : x ∈ P :=
  Classical.byContradiction fun hn => hx (h.np x hn)

theorem popPc_le {p : PC} (h : ldrPc p = false) : popPc p = false := by
  cases p <;> simp [ldrPc, popPc] at *

theorem not_psh {p : PC} (h : ldrPc p = false) : ¬ (p = .lret ∨ ∃ rem, p = .lpush rem) := by
  rintro (e | ⟨r, e⟩) <;> simp [e, ldrPc] at h

/-- where the invariant puts the thread that is releasing, and that it is the only one -/
theorem Inv.ldr {P : List Tid} {s : St} (h : Inv P s) {t : Tid} (hl : ldrPc (s.pc t) = true) :
    s.ldr = some t ∧ t ∈ s.old ∧ t ∉ s.arrd ∧ t ∉ s.stack ∧ t ∉ s.wk ∧ (s.pc t ≠ .lreset → s.rst = false) ∧
    ∀ u, u ≠ t → ldrPc (s.pc u) = false := by
  have e := (h.ldrI t).mp hl
  refine ⟨e, h.ldrO t e, ?_, ?_, ?_, ?_, ?_⟩
  · intro hm; have := h.arrB t hm; revert hl this; cases s.pc t <;> simp [ldrPc, blkPc]
  · intro hm; rw [h.stA t hm] at hl; cases hl
  · intro hm; rw [h.wkA t hm] at hl; cases hl
  · intro hne; cases hr : s.rst with
    | false => rfl
    | true => exact absurd ((h.rstL t e).mp hr) hne
  · intro u hu; cases hb : ldrPc (s.pc u) with
    | false => rfl
    | true => have := (h.ldrI u).mp hb; rw [e] at this; cases this; exact absurd rfl hu

/-- the two clauses that relate the last arriver's phase to the others survive a move of `t` that
    neither makes `t` enter the phase nor takes `t` out of what the phase demands of the others -/
theorem popC_upd {pc : Tid → PC} {old : List Tid} {t : Tid} {x : PC}
    (h : ∀ u, popPc (pc u) = true → ∀ p, p ∈ old → p ≠ u → blkPc (pc p) = true)
    (hx : popPc x = true → popPc (pc t) = true) (hb : blkPc (pc t) = true → blkPc x = true) :
    ∀ u, popPc (upd pc t x u) = true → ∀ p, p ∈ old → p ≠ u → blkPc (upd pc t x p) = true := by
  intro u hu p hp hpu
  simp only [upd_apply] at hu ⊢
  have := h u; have := h t
  grind

theorem pshC_upd {pc : Tid → PC} {old wk : List Tid} {t : Tid} {x : PC}
    (h : ∀ u, (pc u = .lret ∨ ∃ rem, pc u = .lpush rem) → ∀ p, p ∈ old → p ≠ u → pc p = .woken ∨ p ∈ wk)
    (hx : (x = .lret ∨ ∃ rem, x = .lpush rem) → (pc t = .lret ∨ ∃ rem, pc t = .lpush rem))
    (hw : pc t = .woken → x = .woken) :
    ∀ u, (upd pc t x u = .lret ∨ ∃ rem, upd pc t x u = .lpush rem) → ∀ p, p ∈ old → p ≠ u →
      upd pc t x p = .woken ∨ p ∈ wk := by
  intro u hu p hp hpu
  simp only [upd_apply] at hu ⊢
  have hu' : pc u = .lret ∨ ∃ rem, pc u = .lpush rem := by
    by_cases e : u = t
    · subst e; rw [if_pos rfl] at hu; exact hx hu
    · rw [if_neg e] at hu; exact hu
  have := h u hu' p hp hpu
  grind

/-! ### steps that only move the program counter of one thread -/

/-- program counters between which a thread moves without writing shared state -/
def quiet : PC → Bool
  | .idle | .retry | .rd _ | .arr | .sw | .pushc _ | .lpop _ | .lpopc _ _ _ => true
  | _ => false

theorem quiet_spec {p : PC} (h : quiet p = true) : ldrPc p = popPc p ∧ p ≠ .woken ∧ p ≠ .asleep ∧ p ≠ .lreset ∧
    p ≠ .lret ∧ p ≠ .exited ∧ ∀ rem, p ≠ .lpush rem := by
  cases p <;> simp [quiet, ldrPc, popPc] at *

/-- A move of `t` between two quiet program counters of the same class (not arrived / arrived and not yet
    on the stack / popping) is invisible to the invariant, up to what it says about the parameters
    of the new program counter. -/
theorem Inv.move {P : List Tid} {s : St} (h : Inv P s) {t : Tid} {x : PC} (ht : t ∈ P)
    (hq : quiet (s.pc t) = true ∧ quiet x = true)
    (hc : prePc x = prePc (s.pc t) ∧ blkPc x = blkPc (s.pc t) ∧ popPc x = popPc (s.pc t))
    (hrd : ∀ v, x = .rd v → v < P.length)
    (hlpo : ∀ acc, x = .lpop acc → s.wk = acc ∧ acc.length + 1 < P.length)
    (hlpc : ∀ y nx acc, x = .lpopc y nx acc → s.wk = acc ∧ acc.length + 1 < P.length ∧ (y :: nx) <:+ s.stack) :
    Inv P { s with pc := upd s.pc t x } := by
  have hqa := quiet_spec hq.1
  have hqx := quiet_spec hq.2
  have hl : ldrPc x = ldrPc (s.pc t) := by rw [hqa.1, hqx.1, hc.2.2]
  obtain ⟨hpre, hblk, hpop⟩ := hc
  have a := h.at t
  -- here and in the per-label lemmas: the clauses of `Glob` left open come as goals in the order of its fields,
  -- then `At` for the thread that moved, then (if not closed on the spot) `At` for the others
  refine Inv.of { h.glob with popC := ?_, pshC := ?_ } (at_upd ?_ fun u _ => { h.at u with })
  · exact popC_upd h.popC (by grind) (by grind)
  · exact pshC_upd h.pshC (by grind) (by grind)
  · exact
    { np := by grind
      arrB := by have := a.arrB; grind
      oldPc := by have := a.oldPc; grind
      preC := by have := a.preC; grind
      wokO := by grind
      ldrI := by have := a.ldrI; grind
      rstL := by have := a.rstL; grind
      rdC := hrd
      noEx := by grind
      stA := by have := a.stA; grind
      wkA := by have := a.wkA; grind
      asl := by grind
      popA := by have := a.popA; grind
      lrsA := by grind
      lpoA := hlpo
      lpcA := hlpc
      lpuA := by grind
      lreA := by grind
      oldW := by have := a.oldW; grind }

theorem p_blockBegin (P : List Tid) (s s' : St) (t) :
    Inv P s → t ∈ P → step P.length s (.blockBegin t) = some s' → Inv P s' := by
  intro h hP hs
  simp only [step] at hs
  split at hs <;> cases hs
  rename_i hpc
  exact h.move hP (by simp [hpc, quiet]) (by simp [hpc, prePc, blkPc, popPc]) (by simp) (by simp) (by simp)

theorem p_pushRead (P : List Tid) (s s' : St) (t x) :
    Inv P s → t ∈ P → step P.length s (.pushRead t x) = some s' → Inv P s' := by
  intro h hP hs
  simp only [step] at hs
  split at hs <;> cases hs
  rename_i hc
  exact h.move hP (by simp [hc.1, quiet]) (by simp [hc.1, prePc, blkPc, popPc]) (by simp) (by simp) (by simp)

theorem p_popRead (P : List Tid) (s s' : St) (t x) :
    Inv P s → t ∈ P → step P.length s (.popRead t x) = some s' → Inv P s' := by
  intro h hP hs
  simp only [step] at hs
  split at hs
  · rename_i acc hpc
    split at hs
    · split at hs <;> cases hs
      · exact h
      · rename_i y r hst
        have := h.lpoA t acc hpc
        exact h.move hP (by simp [hpc, quiet]) (by simp [hpc, prePc, blkPc, popPc]) (by simp) (by simp)
          (by simp [hst]; grind)
    · cases hs
  · cases hs

theorem p_read (P : List Tid) (s s' : St) (t v) :
    Inv P s → t ∈ P → step P.length s (.read t v) = some s' → Inv P s' := by
  intro h hP hs
  simp only [step] at hs
  split at hs
  · rename_i hc
    obtain ⟨hv0, hpc⟩ := hc
    have hq : quiet (s.pc t) = true ∧ prePc (s.pc t) = true ∧ blkPc (s.pc t) = false ∧ popPc (s.pc t) = false := by
      rcases hpc with e | e <;> simp [e, quiet, prePc, blkPc, popPc]
    split at hs <;> cases hs
    · rename_i hv
      exact h.move hP ⟨hq.1, rfl⟩ ⟨hq.2.1.symm, hq.2.2.1.symm, hq.2.2.2.symm⟩ (by simpa using hv) (by simp) (by simp)
    · -- a participant can never read `state ≥ N`: the count is N only between the last CAS and the
      -- reset, when every participant is in `old`, hence not before its arrival
      exfalso
      rename_i hv
      have hcnt := h.cnt
      have := h.arrL
      have hr : s.rst = true := by
        cases hr : s.rst with
        | true => rfl
        | false => rw [hr] at hcnt; simp at hcnt; omega
      cases hl : s.ldr with
      | none => have := h.rstN hl; rw [hr] at this; cases this
      | some l =>
        have hlr : s.pc l = .lreset := (h.rstL l hl).mp hr
        have hto : t ∈ s.old := all_old_of_len h.oldP h.oldN (h.popA l (by simp [hlr, popPc])).2.1 t hP
        rcases h.oldPc t hto with hb | hb | hb
        · rw [hq.2.2.1] at hb; cases hb
        · rw [hb] at hq; simp [prePc] at hq
        · have := (h.ldrI t).mpr hb
          rcases hpc with e | e <;> simp [e, ldrPc] at this
  · cases hs

theorem p_pushCas (P : List Tid) (s s' : St) (t ok) :
    Inv P s → t ∈ P → step P.length s (.pushCas t ok) = some s' → Inv P s' := by
  intro h hP hs
  simp only [step] at hs
  split at hs
  · rename_i x hpc
    split at hs
    · split at hs <;> cases hs
      · -- pushed: `t` is new on the stack and asleep
        have ht := h.at t
        rw [hpc] at ht
        have hts : t ∉ s.stack := fun hm => by cases ht.stA hm
        have htw : t ∉ s.wk := fun hm => by cases ht.wkA hm
        refine Inv.of { h.glob with stN := List.nodup_cons.mpr ⟨hts, h.stN⟩, stW := ?_, popC := ?_, pshC := ?_ }
          (at_upd ?_ fun u hu => { h.at u with stA := ?_, asl := ?_, lpcA := ?_ })
        · intro u hu; have := h.stW u; grind
        · exact popC_upd h.popC (by simp [popPc]) (by simp [blkPc])
        · exact pshC_upd h.pshC (by simp) (by simp [hpc])
        · constructor <;> simp [blkPc, prePc, ldrPc, popPc] <;> (cases ht; simp_all [blkPc, prePc, ldrPc, popPc])
        · intro hm; have := (h.at u).stA; grind
        · intro hm; have := (h.at u).asl; grind
        · intro y nx acc hm; have := (h.at u).lpcA y nx acc hm; grind [List.IsSuffix.trans, List.suffix_cons]
      · exact h.move hP (by simp [hpc, quiet]) (by simp [hpc, prePc, blkPc, popPc]) (by simp) (by simp) (by simp)
    · cases hs
  · cases hs

end MythVerif.Barrier
