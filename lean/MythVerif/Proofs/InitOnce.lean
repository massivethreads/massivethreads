import MythVerif.Model.InitOnce
import MythVerif.Proofs.Env
/-! Inductive invariant of the init-once transition system (C15), any number of callers. -/
namespace MythVerif.InitOnce
open MythVerif MythVerif.Env

theorem st_ne1 : sUninit ≠ sInitializing := by decide
theorem st_ne2 : sUninit ≠ sInitialized := by decide
theorem st_ne3 : sInitializing ≠ sInitialized := by decide

structure Inv (s : St) : Prop where
  st3 : s.state = sUninit ∨ s.state = sInitializing ∨ s.state = sInitialized
  elSt : ∀ t, (s.pc t = .i3 ∨ s.pc t = .i4) → s.state = sInitializing
  elUniq : ∀ t u, (s.pc t = .i3 ∨ s.pc t = .i4) → (s.pc u = .i3 ∨ s.pc u = .i4) → t = u
  elEx : s.state = sInitializing → ∃ t, s.pc t = .i3 ∨ s.pc t = .i4
  i3c : ∀ t, s.pc t = .i3 → s.inits s.epoch = 0 ∧ s.workers = []
  i4c : ∀ t, s.pc t = .i4 → s.inits s.epoch = 1 ∧ 0 < s.gattr.nWorkers ∧
          s.workers = List.range s.gattr.nWorkers.toNat ∧ s.mainOn = 0
  unin : s.state = sUninit → s.inits s.epoch = 0 ∧ s.workers = []
  ined : s.state = sInitialized → s.inits s.epoch = 1 ∧ 0 < s.gattr.nWorkers ∧
          (s.fin ≠ .f4 → s.workers = List.range s.gattr.nWorkers.toNat ∧ s.mainOn < s.gattr.nWorkers.toNat) ∧
          (s.fin = .f4 → s.workers = [])
  finSt : (s.fin = .f2 ∨ s.fin = .f3 ∨ s.fin = .f4) → s.state = sInitialized
  f3main : (s.fin = .f3 ∨ s.fin = .f4) → s.mainOn = 0
  past : ∀ e, e < s.epoch → s.inits e = 1
  future : ∀ e, s.epoch < e → s.inits e = 0
  nwpos : s.gattr.initialized = true → 0 < s.gattr.nWorkers
  argOk : ∀ t, s.pc t ≠ .idle → attrOk (s.arg t) = true

theorem inv_init : Inv init := by
  constructor <;> simp [init, gattrZero] <;> decide

theorem resolve_pos (ncpu : Int) (hc : 0 < ncpu) (s : St) (a : Option GAttr) (h : Inv s)
    (ha : attrOk a = true) : 0 < (resolve ncpu s a).nWorkers := by
  unfold resolve
  cases a with
  | some x => simpa [attrOk] using ha
  | none =>
    simp only []
    split
    · rename_i hi; exact h.nwpos hi
    · exact gattrDefault_nw_pos _ _ hc

theorem resolve_none_init (ncpu : Int) (s : St) : (resolve ncpu s none).initialized = true := by
  unfold resolve
  simp only []
  split
  · assumption
  · rfl

/-- A step of `t` between program points outside the initialising section `i3`, `i4` writes no shared
    variable: only the clauses that read `pc` or `arg` have to be looked at. -/
theorem Inv.move {s : St} (h : Inv s) (t : Tid) (p' : PC) (arg' : Tid → Option GAttr)
    (hp : s.pc t ≠ .i3 ∧ s.pc t ≠ .i4) (hp' : p' ≠ .i3 ∧ p' ≠ .i4)
    (argOk : ∀ u, upd s.pc t p' u ≠ .idle → attrOk (arg' u) = true) :
    Inv { s with pc := upd s.pc t p', arg := arg' } :=
  { h with
    argOk
    elSt := by have := h.elSt; simp only [upd_apply]; grind
    elUniq := by have := h.elUniq; simp only [upd_apply]; grind
    elEx := fun hi => (h.elEx hi).imp fun u hu => by grind [upd_apply]
    i3c := by have := h.i3c; simp only [upd_apply]; grind
    i4c := by have := h.i4c; simp only [upd_apply]; grind }

theorem inv_step_all (ncpu : Int) (hc : 0 < ncpu) (s : St) (l : Label) (s' : St) (h : Inv s)
    (hs : step ncpu s l = some s') : Inv s' := by
  have d1 := st_ne1; have d2 := st_ne2; have d3 := st_ne3
  cases l with
  | setenv e => cases hs; exact { h with }
  | callInit t a | callEnsure t =>
    simp only [step] at hs; split at hs <;> cases hs
    exact h.move t _ _ (by grind) (by simp) (by have := h.argOk; grind [upd_apply, attrOk])
  | step t =>
    simp only [step] at hs; (repeat' split at hs) <;> cases hs <;> try exact h
    -- first the steps that enter, run and leave the initialising section
    case h_4.isTrue | h_6 | h_7 =>
      have elSt := h.elSt t; have i3c := h.i3c t; have i4c := h.i4c t
      have hres := resolve_pos ncpu hc s (s.arg t) h (h.argOk t (by grind))
      exact { h with
        st3 := by grind
        elSt := by have := h.elSt; have := h.elUniq; simp only [upd_apply]; grind
        elUniq := by have := h.elUniq; have := h.elSt; simp only [upd_apply]; grind
        elEx := by have := h.elEx; simp only [upd_apply]; grind
        i3c := by have := h.i3c; have := h.unin; have := h.elUniq; simp only [upd_apply]; grind
        i4c := by have := h.i4c; have := h.elUniq t; simp only [upd_apply]; grind
        unin := by have := h.unin; grind
        ined := by have := h.ined; have := h.finSt; have := h.f3main; grind
        finSt := by have := h.finSt; grind
        f3main := by have := h.f3main; grind
        past := by have := h.past; simp only [upd_apply]; grind
        future := by have := h.future; simp only [upd_apply]; grind
        nwpos := by have := h.nwpos; have := resolve_none_init ncpu s; grind
        argOk := by have := h.argOk; simp only [upd_apply]; grind }
    all_goals exact h.move t _ _ (by grind) (by simp) (by have := h.argOk; grind [upd_apply])
  | callFini | finStep | setGlobal n | migrate r =>
    have st3 := h.st3; have unin := h.unin; have ined := h.ined; have finSt := h.finSt
    have f3main := h.f3main
    simp only [step] at hs; (repeat' split at hs) <;> cases hs <;> try exact h
    all_goals
      have hri := resolve_none_init ncpu s
      have hres := resolve_pos ncpu hc s none h
      exact { h with
      st3 := by grind
      elSt := by have := h.elSt; grind
      elEx := by have := h.elEx; grind
      i3c := by have := h.i3c; have := h.elSt; grind
      i4c := by have := h.i4c; have := h.elSt; grind
      unin := by have := h.past; have := h.future; grind
      ined := by grind
      finSt := by grind
      f3main := by grind
      past := by have := h.past; grind
      future := by have := h.future; grind
      nwpos := by have := h.nwpos; grind }

theorem inv_step (ncpu : Int) (hc : 0 < ncpu) (s s' : St) (t : Tid) (h : Inv s)
    (hs : step ncpu s (.step t) = some s') : Inv s' :=
  inv_step_all ncpu hc s (.step t) s' h hs

theorem inv_of_reachable (ncpu : Int) (hc : 0 < ncpu) (s : St)
    (h : Reachable (step ncpu) init s) : Inv s :=
  inv_reachable (step ncpu) init Inv inv_init (inv_step_all ncpu hc) s h

end MythVerif.InitOnce
