import MythVerif.Model.Time
/-!
Helper lemmas for C20: 64-bit arithmetic of `myth_timespec_add`, the order `myth_timespec_gt`,
exact characterisations of the two loops (`sleepLoop`, `timedLoop`) and of their event traces.
-/
namespace MythVerif.Time

theorem wrap64_id {x : Int} (h : InT x) : wrap64 x = x := by
  unfold InT tMin tMax at h; unfold wrap64; omega

/-- the carry out of the nanosecond field -/
def carry (a b : Ts) : Int := if a.nsec + b.nsec ≥ NS then 1 else 0

/-- the first line of both additions on normalised arguments: the nanosecond sum does not wrap,
    its quotient by 10^9 is the carry and its remainder the sum less the carry -/
theorem nsec_sum (a b : Ts) (ha : Norm a) (hb : Norm b) :
    wrap64 (a.nsec + b.nsec) = a.nsec + b.nsec ∧
    Int.tdiv (a.nsec + b.nsec) NS = carry a b ∧
    Int.tmod (a.nsec + b.nsec) NS = a.nsec + b.nsec - carry a b * NS := by
  unfold Norm NS at ha hb
  have h0 : 0 ≤ a.nsec + b.nsec := by omega
  rw [Int.tdiv_eq_ediv_of_nonneg h0, Int.tmod_eq_emod_of_nonneg h0]
  unfold carry NS
  refine ⟨wrap64_id (by unfold InT tMin tMax; omega), ?_, ?_⟩ <;> split <;> omega

theorem carry_le (a b : Ts) : 0 ≤ carry a b ∧ carry a b ≤ 1 := by unfold carry; split <;> omega

/-- the addition is exact when the seconds, carry included, are representable -/
theorem add_exact (a b : Ts) (ha : Norm a) (hb : Norm b)
    (hlo : tMin ≤ a.sec + b.sec) (hhi : a.sec + b.sec + carry a b ≤ tMax) :
    add a b = { sec := a.sec + b.sec + carry a b, nsec := a.nsec + b.nsec - carry a b * NS } := by
  obtain ⟨h1, h2, h3⟩ := nsec_sum a b ha hb
  have hc := carry_le a b
  unfold add
  simp only [h1, h2, h3]
  rw [if_neg (by unfold InT; omega), if_neg (by unfold InT; omega)]

/-- when the sum is not representable the current source saturates -/
theorem add_saturates (a b : Ts) (ha : Norm a) (hb : Norm b)
    (hhi : tMax < a.sec + b.sec + carry a b) :
    add a b = tsSat := by
  obtain ⟨h1, h2, h3⟩ := nsec_sum a b ha hb
  unfold add
  simp only [h1, h2, h3]
  split
  · rfl
  · rw [if_pos (by unfold InT; omega)]

/-- under the same hypotheses so is the addition of the pinned snapshot -/
theorem addPinned_exact (a b : Ts) (ha : Norm a) (hb : Norm b)
    (hlo : tMin ≤ a.sec + b.sec) (hhi : a.sec + b.sec + carry a b ≤ tMax) :
    addPinned a b = { sec := a.sec + b.sec + carry a b, nsec := a.nsec + b.nsec - carry a b * NS } := by
  obtain ⟨h1, h2, h3⟩ := nsec_sum a b ha hb
  have hc := carry_le a b
  unfold addPinned
  simp only [h1, h2, h3]
  rw [wrap64_id (x := a.sec + b.sec) (by unfold InT; omega), wrap64_id (by unfold InT; omega)]

theorem toNs_exact (a b : Ts) :
    toNs { sec := a.sec + b.sec + carry a b, nsec := a.nsec + b.nsec - carry a b * NS } = toNs a + toNs b := by
  unfold toNs carry NS
  split <;> dsimp only <;> omega

theorem norm_exact (a b : Ts) (ha : Norm a) (hb : Norm b) :
    Norm { sec := a.sec + b.sec + carry a b, nsec := a.nsec + b.nsec - carry a b * NS } := by
  unfold Norm NS at *
  unfold carry NS
  split <;> dsimp only <;> omega

theorem gt_iff (a b : Ts) : gt a b = true ↔ (a.sec > b.sec ∨ (a.sec = b.sec ∧ a.nsec > b.nsec)) := by
  unfold gt
  by_cases h1 : a.sec > b.sec
  · simp [h1]
  · by_cases h2 : a.sec = b.sec
    · simp [h2]
    · simp [h1, h2]

theorem gt_irrefl (a : Ts) : gt a a = false := by
  have := gt_iff a a
  cases h : gt a a with
  | false => rfl
  | true => rw [h] at this; have := this.mp rfl; omega

theorem gt_trans {a b c : Ts} (h1 : gt a b = true) (h2 : gt b c = true) : gt a c = true := by
  rw [gt_iff] at *; omega

theorem gt_asymm {a b : Ts} (h : gt a b = true) : gt b a = false := by
  cases h' : gt b a with
  | false => rfl
  | true => rw [gt_iff] at h h'; omega

theorem gt_trichotomy (a b : Ts) : gt a b = true ∨ a = b ∨ gt b a = true := by
  rw [gt_iff, gt_iff]
  by_cases h : a = b
  · exact Or.inr (Or.inl h)
  · have : a.sec ≠ b.sec ∨ a.nsec ≠ b.nsec := by
      cases a; cases b; simp at h ⊢; omega
    omega

/-- on normalised values `gt` is "later than" -/
theorem gt_iff_toNs {a b : Ts} (ha : Norm a) (hb : Norm b) : gt a b = true ↔ toNs a > toNs b := by
  rw [gt_iff]; unfold Norm NS at *; unfold toNs NS; omega

/-- a normalised reading is `gt` a representable sum exactly when it is later than both together -/
theorem gt_add_iff {c a b : Ts} (hc : Norm c) (ha : Norm a) (hb : Norm b)
    (hlo : tMin ≤ a.sec + b.sec) (hhi : a.sec + b.sec + carry a b ≤ tMax) :
    gt c (add a b) = true ↔ toNs c > toNs a + toNs b := by
  rw [add_exact a b ha hb hlo hhi, gt_iff_toNs hc (norm_exact a b ha hb), toNs_exact]

/-- a normalised reading that is `gt` a deadline whose nanosecond field is at most 10^9 (so also the
    "just outside" values 10^9 and every negative value) is not earlier than that deadline -/
theorem gt_not_earlier {a b : Ts} (ha : Norm a) (hb : b.nsec ≤ NS) (h : gt a b = true) : toNs a ≥ toNs b := by
  rw [gt_iff] at h; unfold Norm NS at *; unfold toNs NS; omega

/-- no normalised in-range reading is later than the saturated time -/
theorem not_gt_tsSat {a : Ts} (ha : Norm a) (hs : InT a.sec) : gt a tsSat = false := by
  cases h : gt a tsSat with
  | false => rfl
  | true =>
    rw [gt_iff] at h; unfold Norm NS at ha; unfold InT tMax at hs
    simp only [tsSat, tMax] at h; omega

/-! ### event traces: a yield separates any two clock reads -/

/-- in `tr`, between any two clock reads there is a yield -/
def Sep (tr : List Ev) : Prop :=
  ∀ l1 a l2 b l3, tr = l1 ++ Ev.clock a :: (l2 ++ Ev.clock b :: l3) → Ev.yield ∈ l2

theorem Sep_nil : Sep [] := by
  intro l1 a l2 b l3 h
  simp at h

/-- `Sep` event by event: the tail is separated, and if the head is a clock read there is a yield
    before the next one -/
theorem Sep_cons {e : Ev} {tr : List Ev} :
    Sep (e :: tr) ↔ Sep tr ∧ ∀ a l2 b l3, e = Ev.clock a → tr = l2 ++ Ev.clock b :: l3 → Ev.yield ∈ l2 := by
  constructor
  · exact fun h => ⟨fun l1 a l2 b l3 heq => h (e :: l1) a l2 b l3 (by rw [heq]; rfl),
      fun a l2 b l3 he heq => h [] a l2 b l3 (by rw [he, heq]; rfl)⟩
  · rintro ⟨h1, h2⟩ (_ | ⟨x, l1⟩) a l2 b l3 heq
    · simp only [List.nil_append, List.cons.injEq] at heq
      exact h2 a l2 b l3 heq.1 heq.2
    · simp only [List.cons_append, List.cons.injEq] at heq
      exact h1 l1 a l2 b l3 heq.2

theorem Sep_single (e : Ev) : Sep [e] := by simp [Sep_cons, Sep_nil]

theorem Sep_cons_other {e : Ev} {tr : List Ev} (he : ∀ a, e ≠ Ev.clock a) (h : Sep tr) : Sep (e :: tr) :=
  Sep_cons.mpr ⟨h, fun a _ _ _ hea => absurd hea (he a)⟩

theorem Sep_clock_yield {c : Ts} {tr : List Ev} (h : Sep tr) : Sep (Ev.clock c :: Ev.yield :: tr) := by
  refine Sep_cons.mpr ⟨Sep_cons_other (by simp) h, ?_⟩
  rintro a (_ | ⟨y, l2⟩) b l3 _ heq <;> simp_all

theorem Sep_clock_attempt_yield {c : Ts} {ok : Bool} {tr : List Ev} (h : Sep tr) :
    Sep (Ev.clock c :: Ev.attempt ok :: Ev.yield :: tr) := by
  refine Sep_cons.mpr ⟨Sep_cons_other (by simp) (Sep_cons_other (by simp) h), ?_⟩
  rintro a (_ | ⟨y, _ | ⟨z, l2⟩⟩) b l3 _ heq <;> simp_all

theorem Sep_clock_attempt (c : Ts) (ok : Bool) : Sep [Ev.clock c, Ev.attempt ok] := by
  refine Sep_cons.mpr ⟨Sep_single _, ?_⟩
  rintro a (_ | ⟨y, l2⟩) b l3 _ heq <;> simp_all

/-! ### the sleep loop -/

/-- the events of a sleep loop that starts at reading `i` and breaks at reading `i + n` -/
def sleepTrace (clk : Clock) (i : Nat) : Nat → List Ev
  | 0 => [Ev.clock (clk i)]
  | n + 1 => Ev.clock (clk i) :: Ev.yield :: sleepTrace clk (i + 1) n

/-- exact behaviour of the loop: it breaks at the first reading (from `i` on) later than `unt` -/
theorem sleepLoop_some (unt : Ts) (clk : Clock) (f i : Nat) (tr : List Ev) :
    sleepLoop unt clk f i = some tr ↔
      ∃ n, n < f ∧ gt (clk (i + n)) unt = true ∧ (∀ j, j < n → gt (clk (i + j)) unt = false) ∧
        tr = sleepTrace clk i n := by
  induction f generalizing i tr with
  | zero => simp [sleepLoop]
  | succ f ih =>
    simp only [sleepLoop, Nat.exists_lt_succ_left, Nat.forall_lt_succ_left, sleepTrace, ← Nat.add_assoc,
      Nat.add_zero,
      Nat.add_right_comm i _ 1]
    cases hg : gt (clk i) unt
    · simp only [Bool.false_eq_true, if_false, Option.map_eq_some_iff, ih, false_and, false_or, true_and]
      constructor
      · rintro ⟨_, ⟨n, h1, h2, h3, rfl⟩, rfl⟩; exact ⟨n, h1, h2, h3, rfl⟩
      · rintro ⟨n, h1, h2, h3, rfl⟩; exact ⟨_, ⟨n, h1, h2, h3, rfl⟩, rfl⟩
    · simp; exact eq_comm

theorem sleepTrace_Sep (clk : Clock) (i n : Nat) : Sep (sleepTrace clk i n) := by
  induction n generalizing i with
  | zero => exact Sep_single _
  | succ n ih => exact Sep_clock_yield (ih (i + 1))

theorem mem_sleepTrace (clk : Clock) (i n : Nat) : Ev.clock (clk (i + n)) ∈ sleepTrace clk i n := by
  induction n generalizing i with
  | zero => simp [sleepTrace]
  | succ n ih =>
    simp only [sleepTrace, List.mem_cons]
    right; right
    have := ih (i + 1)
    rwa [show i + 1 + n = i + (n + 1) by omega] at this

theorem sleepTrace_yields (clk : Clock) (i n : Nat) : (sleepTrace clk i n).count Ev.yield = n := by
  induction n generalizing i with
  | zero => simp [sleepTrace]
  | succ n ih => simp [sleepTrace, ih]

/-! ### the timed loop -/

/-- events of a timed loop that starts at iteration `i`, fails `n` times and then ends with `last` -/
def timedTrace (clk : Clock) (last : Ts → List Ev) (i : Nat) : Nat → List Ev
  | 0 => last (clk i)
  | n + 1 => Ev.clock (clk i) :: Ev.attempt false :: Ev.yield :: timedTrace clk last (i + 1) n

def lastTimeout (t : Ts) : List Ev := [Ev.clock t]
def lastSuccess (t : Ts) : List Ev := [Ev.clock t, Ev.attempt true]

/-- exact behaviour of the timed loop -/
theorem timedLoop_some (code : Rc) (abs : Ts) (clk : Clock) (out : Nat → Bool) (f i : Nat)
    (r : Rc) (tr : List Ev) :
    timedLoop code abs clk out f i = some (r, tr) ↔
      ∃ n, n < f ∧ (∀ j, j < n → gt (clk (i + j)) abs = false ∧ out (i + j + 1) = false) ∧
        ((gt (clk (i + n)) abs = true ∧ r = code ∧ tr = timedTrace clk lastTimeout i n) ∨
         (gt (clk (i + n)) abs = false ∧ out (i + n + 1) = true ∧ r = Rc.ok ∧
            tr = timedTrace clk lastSuccess i n)) := by
  induction f generalizing i r tr with
  | zero => simp [timedLoop]
  | succ f ih =>
    simp only [timedLoop, Nat.exists_lt_succ_left, Nat.forall_lt_succ_left, timedTrace, lastTimeout,
      lastSuccess,
      ← Nat.add_assoc, Nat.add_zero, Nat.add_right_comm i _ 1]
    cases hg : gt (clk i) abs
    · cases ho : out (i + 1)
      · simp only [Bool.false_eq_true, if_false, Option.map_eq_some_iff, ih, false_and, and_false, false_or,
          true_and, Prod.exists, Prod.mk.injEq]
        constructor
        · rintro ⟨_, _, ⟨n, h1, h2, h3⟩, rfl, rfl⟩
          refine ⟨n, h1, h2, ?_⟩
          rcases h3 with ⟨a, rfl, rfl⟩ | ⟨a, b, rfl, rfl⟩
          · exact Or.inl ⟨a, rfl, rfl⟩
          · exact Or.inr ⟨a, b, rfl, rfl⟩
        · rintro ⟨n, h1, h2, h3⟩
          rcases h3 with ⟨a, rfl, rfl⟩ | ⟨a, b, rfl, rfl⟩
          · exact ⟨_, _, ⟨n, h1, h2, Or.inl ⟨a, rfl, rfl⟩⟩, rfl, rfl⟩
          · exact ⟨_, _, ⟨n, h1, h2, Or.inr ⟨a, b, rfl, rfl⟩⟩, rfl, rfl⟩
      · simp; exact and_congr eq_comm eq_comm
    · simp; exact and_congr eq_comm eq_comm

theorem timedTrace_Sep (clk : Clock) (last : Ts → List Ev) (hl : ∀ t, Sep (last t)) (i n : Nat) :
    Sep (timedTrace clk last i n) := by
  induction n generalizing i with
  | zero => exact hl _
  | succ n ih => exact Sep_clock_attempt_yield (ih (i + 1))

theorem lastTimeout_Sep (t : Ts) : Sep (lastTimeout t) := Sep_single _
theorem lastSuccess_Sep (t : Ts) : Sep (lastSuccess t) := Sep_clock_attempt _ _

theorem mem_timedTrace_timeout (clk : Clock) (i n : Nat) :
    Ev.clock (clk (i + n)) ∈ timedTrace clk lastTimeout i n := by
  induction n generalizing i with
  | zero => simp [timedTrace, lastTimeout]
  | succ n ih =>
    simp only [timedTrace, List.mem_cons]
    right; right; right
    have := ih (i + 1)
    rwa [show i + 1 + n = i + (n + 1) by omega] at this

theorem timedTrace_timeout_no_success (clk : Clock) (i n : Nat) :
    Ev.attempt true ∉ timedTrace clk lastTimeout i n := by
  induction n generalizing i with
  | zero => simp [timedTrace, lastTimeout]
  | succ n ih => simp [timedTrace, ih]

theorem timedTrace_success_mem (clk : Clock) (i n : Nat) :
    Ev.attempt true ∈ timedTrace clk lastSuccess i n := by
  induction n generalizing i with
  | zero => simp [timedTrace, lastSuccess]
  | succ n ih => simp [timedTrace, ih]

/-! ### unfoldings of the top-level functions -/

/-- the three tests at the head of `myth_nanosleep_body` are `malformed`; a well-formed request
    takes the start reading and enters the loop -/
theorem nanosleepWith_eq (addf : Ts → Ts → Ts) (req : Ts) (clk : Clock) (fuel : Nat) :
    nanosleepWith addf req clk fuel =
      if malformed req then some (Rc.einval, [])
      else (sleepLoop (addf (clk 0) req) clk fuel 1).map (fun tr => (Rc.ok, Ev.clock (clk 0) :: tr)) := by
  unfold nanosleepWith malformed
  by_cases h1 : req.sec < 0 <;> by_cases h2 : req.nsec < 0 <;> by_cases h3 : req.nsec > 999999999 <;>
    simp [h1, h2, h3]

theorem malformed_iff (req : Ts) :
    malformed req = true ↔ (req.sec < 0 ∨ req.nsec < 0 ∨ req.nsec > 999999999) := by
  simp [malformed, or_assoc]

theorem not_malformed_iff (req : Ts) : malformed req = false ↔ (0 ≤ req.sec ∧ Norm req) := by
  rw [← Bool.not_eq_true, malformed_iff]; unfold Norm NS; omega

/-- unfolding of a successful nanosleep: valid request, and the loop broke at the first reading
    `1 + n` that is `gt` the computed wake-up time -/
theorem nanosleep_ok (req : Ts) (clk : Clock) (fuel : Nat) (tr : List Ev) :
    nanosleep req clk fuel = some (Rc.ok, tr) ↔
      (0 ≤ req.sec ∧ Norm req) ∧ ∃ n, n < fuel ∧ gt (clk (1 + n)) (add (clk 0) req) = true ∧
        (∀ j, j < n → gt (clk (1 + j)) (add (clk 0) req) = false) ∧
        tr = Ev.clock (clk 0) :: sleepTrace clk 1 n := by
  rw [nanosleep, nanosleepWith_eq, ← not_malformed_iff]
  cases malformed req
  · simp only [Bool.false_eq_true, if_false, Option.map_eq_some_iff, Prod.mk.injEq, true_and, sleepLoop_some]
    constructor
    · rintro ⟨_, ⟨n, h1, h2, h3, rfl⟩, rfl⟩; exact ⟨n, h1, h2, h3, rfl⟩
    · rintro ⟨n, h1, h2, h3, rfl⟩; exact ⟨_, ⟨n, h1, h2, h3, rfl⟩, rfl⟩
  · simp

/-- a valid request whose wake-up time is not representable never returns: the wake-up time
    saturates, and no reading is later than that -/
theorem nanosleep_overflow (req : Ts) (clk : Clock) (fuel : Nat)
    (hclk : ∀ i, Norm (clk i) ∧ InT (clk i).sec) (hs : 0 ≤ req.sec) (hn : Norm req)
    (hov : tMax < (clk 0).sec + req.sec + carry (clk 0) req) :
    nanosleep req clk fuel = none := by
  rw [nanosleep, nanosleepWith_eq, (not_malformed_iff req).mpr ⟨hs, hn⟩,
    add_saturates (clk 0) req (hclk 0).1 hn hov]
  cases h : sleepLoop tsSat clk fuel 1 with
  | none => rfl
  | some tr =>
    obtain ⟨n, _, hg, _⟩ := (sleepLoop_some _ clk fuel 1 tr).mp h
    rw [not_gt_tsSat (hclk _).1 (hclk _).2] at hg
    cases hg

/-- exact unfolding of a finished timed operation (helper) -/
theorem timed_some (code : Rc) (abs : Ts) (clk : Clock) (out : Nat → Bool) (fuel : Nat) (r : Rc) (tr : List Ev) :
    timed code abs clk out fuel = some (r, tr) ↔
      (out 0 = true ∧ r = Rc.ok ∧ tr = [Ev.attempt true]) ∨
      (out 0 = false ∧ ∃ n, n < fuel ∧ (∀ j, j < n → gt (clk j) abs = false ∧ out (j + 1) = false) ∧
        ((gt (clk n) abs = true ∧ r = code ∧ tr = Ev.attempt false :: timedTrace clk lastTimeout 0 n) ∨
         (gt (clk n) abs = false ∧ out (n + 1) = true ∧ r = Rc.ok ∧
            tr = Ev.attempt false :: timedTrace clk lastSuccess 0 n))) := by
  unfold timed
  cases h0 : out 0
  · simp only [Bool.false_eq_true, if_false, Option.map_eq_some_iff, Prod.exists, Prod.mk.injEq,
      timedLoop_some, Nat.zero_add, false_and, false_or, true_and]
    constructor
    · rintro ⟨_, _, ⟨n, h1, h2, h3⟩, rfl, rfl⟩
      refine ⟨n, h1, h2, ?_⟩
      rcases h3 with ⟨a, rfl, rfl⟩ | ⟨a, b, rfl, rfl⟩
      · exact Or.inl ⟨a, rfl, rfl⟩
      · exact Or.inr ⟨a, b, rfl, rfl⟩
    · rintro ⟨n, h1, h2, h3⟩
      rcases h3 with ⟨a, rfl, rfl⟩ | ⟨a, b, rfl, rfl⟩
      · exact ⟨_, _, ⟨n, h1, h2, Or.inl ⟨a, rfl, rfl⟩⟩, rfl, rfl⟩
      · exact ⟨_, _, ⟨n, h1, h2, Or.inr ⟨a, b, rfl, rfl⟩⟩, rfl, rfl⟩
  · simp; exact and_congr eq_comm eq_comm

end MythVerif.Time
