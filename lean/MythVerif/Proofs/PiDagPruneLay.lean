import MythVerif.Proofs.PiDagPruneCopy
/-! The node array `dr_pi_dag_copy_and_prune_nodes` produces from a laid-out DAG is the layout of the
pruned tree (the sections / tasks that do not copy their children collapsed), and the pruned tree
has the recorder's shape again; hence the converted DAG is well formed. -/
namespace MythVerif.PiDag
open MythVerif.DagRec

mutual
/-- the tree after the conversion-time contraction; `kp g` = the group at slot `g` keeps its children -/
def pruneT (kp : Nat → Bool) : DNode → Nat → Nat → DNode
  | .ival i, _, _ => .ival i
  | .create i ch, _, base => .create i (pruneT kp ch base (base + 1))
  | .group i ds, idx, base => if kp idx then .group i (pruneTL kp ds base (base + ds.length)) else .group i .nil
def pruneTL (kp : Nat → Bool) : DList → Nat → Nat → DList
  | .nil, _, _ => .nil
  | .cons d r, k, base => .cons (pruneT kp d k base) (pruneTL kp r (k + 1) (base + descT d))
end

theorem pruneTL_length (kp : Nat → Bool) : ∀ (ds : DList) (k base : Nat), (pruneTL kp ds k base).length = ds.length
  | .nil, _, _ => rfl
  | .cons d r, k, base => by simp [pruneTL, DList.length, pruneTL_length kp r]

/-! ### the shape is kept -/

theorem pruneTL_isNil (kp : Nat → Bool) (ds : DList) (k base : Nat) : (pruneTL kp ds k base).isNil = ds.isNil := by
  cases ds <;> rfl

mutual
theorem pruneT_gram (kp : Nat → Bool) : ∀ (d : DNode) (idx base : Nat) (b : Bool),
    (gItem b d = true → gItem b (pruneT kp d idx base) = true) ∧
    (gLast b d = true → gLast b (pruneT kp d idx base) = true) ∧
    (gTask d = true → gTask (pruneT kp d idx base) = true)
  | .ival i, idx, base, b => by simp [pruneT]
  | .create i ch, idx, base, b => by
    have ih := pruneT_gram kp ch base (base + 1) b
    simp only [pruneT, gItem, gLast, gTask, Bool.and_eq_true]
    exact ⟨fun h => ⟨h.1, ih.2.2 h.2⟩, fun h => h, fun h => h⟩
  | .group i ds, idx, base, b => by
    apply gram_of_group (f := fun d => pruneT kp d idx base)
    intro k bb h
    simp only [pruneT]
    split
    · exact ⟨_, _, rfl, gGroup_of h rfl (Or.inr ⟨pruneTL_gram kp ds _ _ bb, pruneTL_isNil kp ds _ _⟩)⟩
    · exact ⟨_, _, rfl, gGroup_of h rfl (Or.inl rfl)⟩
theorem pruneTL_gram (kp : Nat → Bool) : ∀ (ds : DList) (k base : Nat) (b : Bool),
    gForest b ds = true → gForest b (pruneTL kp ds k base) = true
  | .nil, _, _, _, h => by simp [gForest] at h
  | .cons d .nil, k, base, b, h => by
    simp only [gForest] at h
    simp only [pruneTL, gForest]
    exact (pruneT_gram kp d k base b).2.1 h
  | .cons d (.cons d' r), k, base, b, h => by
    rw [gForest_cons2, Bool.and_eq_true] at h
    exact gForest_cons ((pruneT_gram kp d k base b).1 h.1) (pruneTL_gram kp (.cons d' r) _ _ b h.2)
end

/-! ### the layout of the pruned tree -/

/-- `1` for a kept slot -/
def kf (map : Array Int) (j : Nat) : Nat := if (0 : Int) ≤ map[j]! then 1 else 0

theorem cntK_add (map : Array Int) (x m : Nat) : cntK map (x + m) = cntK map x + isum x m (kf map) := by
  have := isum_add 0 x m (kf map)
  simp only [Nat.zero_add] at this
  simpa [cntK, isum, kf] using this

theorem isum_all_one (map : Array Int) (k len : Nat) (h : ∀ c, k ≤ c → c < k + len → (0 : Int) ≤ map[c]!) :
    isum k len (kf map) = len := by
  induction len with
  | zero => rfl
  | succ len ih =>
    rw [isum_succ, ih (fun c h1 h2 => h c h1 (by omega))]
    simp [kf, h (k + len) (by omega) (by omega)]

theorem isum_all_zero (map : Array Int) (k len : Nat) (h : ∀ c, k ≤ c → c < k + len → ¬ (0 : Int) ≤ map[c]!) :
    isum k len (kf map) = 0 := by
  induction len with
  | zero => rfl
  | succ len ih =>
    rw [isum_succ, ih (fun c h1 h2 => h c h1 (by omega))]
    simp [kf, h (k + len) (by omega) (by omega)]

/-- what the two steps of the copy establish -/
structure PCtx (o : ShrinkOpts) (T : Array PNode) (map : Array Int) (T_ : Array PNode) : Prop where
  F : PFinal o T map
  get : ∀ j, j < T.size → (0 : Int) ≤ map[j]! →
    T_[cntK map j]!.info.c.kind = T[j]!.info.c.kind ∧ T_[cntK map j]!.a = (newAB T map j).1 ∧
      T_[cntK map j]!.b = (newAB T map j).2

theorem PCtx.toNat {o : ShrinkOpts} {T : Array PNode} {map : Array Int} {T_ : Array PNode} (P : PCtx o T map T_)
    (j : Nat) (hj : j < T.size) (hk : (0 : Int) ≤ map[j]!) : map[j]!.toNat = cntK map j := by
  rcases P.F.low j hj with h | h
  · rw [h] at hk; simp [mapNoCopy] at hk
  · rw [h]; simp

theorem ccT_create {o : ShrinkOpts} {T : Array PNode} {i : Info} {ch : DNode} {g b' : Nat}
    (hl : LayN T (.create i ch) g b') (hw : gW (.create i ch) = true) : ccT o T g = true := by
  simp only [LayN] at hl
  simp only [gW, Bool.and_eq_true] at hw
  simp [ccT, hl.1, hw.1.1]

theorem ccT_group {o : ShrinkOpts} {T : Array PNode} {i : Info} {ds : DList} {g b' : Nat}
    (hl : LayN T (.group i ds) g b') (hw : gW (.group i ds) = true) : ccT o T g = copyChildren o T[g]! := by
  obtain ⟨h1, _⟩ := group_kind_facts hl hw
  simp [ccT, isGroupK_ne_create h1, h1]

theorem newAB_create {T : Array PNode} {i : Info} {ch : DNode} {g b' : Nat} (map : Array Int)
    (hl : LayN T (.create i ch) g b') (hw : gW (.create i ch) = true) :
    (newAB T map g).1 = (map[b']!).toNat - (map[g]!).toNat := by
  simp only [LayN] at hl
  simp only [gW, Bool.and_eq_true] at hw
  simp [newAB, hl.1, hw.1.1, hl.2.1]

theorem newAB_group {T : Array PNode} {i : Info} {ds : DList} {g b' : Nat} (map : Array Int)
    (hl : LayN T (.group i ds) g b') (hw : gW (.group i ds) = true) :
    newAB T map g = if 0 < ds.length then
        (if map[b']! ≥ (0 : Int) then ((map[b']!).toNat - (map[g]!).toNat, (map[b' + ds.length - 1]!).toNat - (map[g]!).toNat + 1)
         else (0, 0))
      else (T[g]!.a, T[g]!.a) := by
  obtain ⟨h1, h2, h3, h4, _, _⟩ := group_kind_facts hl hw
  simp only [newAB, isGroupK_ne_create h1, h1, Bool.false_eq_true, if_false, if_true]
  by_cases hlen : 0 < ds.length
  · have e := h2 hlen
    have : g + T[g]!.a < g + T[g]!.b := by omega
    rw [if_pos this, if_pos hlen, e]
    have : g + T[g]!.b - 1 = b' + ds.length - 1 := by omega
    rw [this]
  · have : ¬ g + T[g]!.a < g + T[g]!.b := by omega
    rw [if_neg this, if_neg hlen]
    have : T[g]!.b = T[g]!.a := by omega
    rw [this]

mutual
theorem layN_prune {o : ShrinkOpts} {T : Array PNode} {map : Array Int} {T_ : Array PNode} (P : PCtx o T map T_) :
    ∀ (d : DNode) (idx base : Nat), LayN T d idx base → gW d = true → idx < T.size → base + descT d ≤ T.size →
      ((0 : Int) ≤ map[idx]! →
        LayN T_ (pruneT (fun g => copyChildren o T[g]!) d idx base) (cntK map idx) (cntK map base) ∧
        isum base (descT d) (kf map) = descT (pruneT (fun g => copyChildren o T[g]!) d idx base)) ∧
      (¬ (0 : Int) ≤ map[idx]! → isum base (descT d) (kf map) = 0)
  | .ival i, idx, base, hl, hw, hi, hb => by
    refine ⟨fun hk => ⟨?_, rfl⟩, fun _ => rfl⟩
    simp only [pruneT, LayN] at hl ⊢
    rw [(P.get idx hi hk).1]; exact hl
  | .create i ch, idx, base, hl, hw, hi, hb => by
    have hcc := ccT_create (o := o) hl hw
    have hab := newAB_create map hl hw
    have hl' := hl
    simp only [LayN] at hl
    simp only [gW, Bool.and_eq_true] at hw
    simp only [descT] at hb
    have hind : ind T idx base = 1 := by
      rw [ind_eq_indT T base _ idx base hl' (by simp only [gW, Bool.and_eq_true]; exact hw)]
      simp [indT]
    have hrel := P.F.rel idx base hi (by omega) hind
    have ih := layN_prune P ch base (base + 1) hl.2.2.2 hw.2 (by omega) (by omega)
    have e1 : descT (.create i ch) = descT ch + 1 := by simp [descT]; omega
    constructor
    · intro hk
      have hkb : (0 : Int) ≤ map[base]! := hrel.mpr ⟨hk, hcc⟩
      obtain ⟨q1, q2⟩ := ih.1 hkb
      have hc1 : cntK map (base + 1) = cntK map base + 1 := by rw [cntK_succ, if_pos hkb]
      rw [hc1] at q1
      have hlt := cntK_lt map idx base hl.2.2.1 hk
      refine ⟨?_, ?_⟩
      · simp only [pruneT, LayN]
        obtain ⟨g1, g2, _⟩ := P.get idx hi hk
        refine ⟨by rw [g1]; exact hl.1, ?_, hlt, q1⟩
        rw [g2, hab, P.toNat base (by omega) hkb, P.toNat idx hi hk]
        omega
      · rw [e1, isum_succ_left, q2]
        simp only [pruneT, descT, kf, hkb, if_true]
    · intro hk
      have hkb : ¬ (0 : Int) ≤ map[base]! := fun h => hk (hrel.mp h).1
      rw [e1, isum_succ_left, ih.2 hkb]
      simp [kf, hkb]
  | .group i ds, idx, base, hl, hw, hi, hb => by
    have hcc := ccT_group (o := o) hl hw
    have hab := newAB_group map hl hw
    obtain ⟨h1, h2, h3, h4, h5, h6⟩ := group_kind_facts hl hw
    have hkind : T[idx]!.info.c.kind = i.c.kind := by simp only [LayN] at hl; exact hl.1
    have hdl := descL_eq ds
    simp only [descT] at hb
    have hrel : ∀ c, base ≤ c → c < base + ds.length →
        ((0 : Int) ≤ map[c]! ↔ ((0 : Int) ≤ map[idx]! ∧ copyChildren o T[idx]! = true)) := by
      intro c hc1 hc2
      have hind : ind T idx c = 1 := by
        rw [ind_eq_indT T c _ idx base hl hw]
        simp [indT, hc1, hc2]
      rw [← hcc]
      exact P.F.rel idx c hi (by omega) hind
    have e1 : descT (.group i ds) = ds.length + descS ds := hdl
    -- the children are kept iff the node is kept and copies its children
    by_cases hkeep : (0 : Int) ≤ map[idx]! ∧ copyChildren o T[idx]! = true
    · obtain ⟨hk, hkp⟩ := hkeep
      refine ⟨fun _ => ?_, fun h => absurd hk h⟩
      have hall : ∀ c, base ≤ c → c < base + ds.length → (0 : Int) ≤ map[c]! :=
        fun c hc1 hc2 => (hrel c hc1 hc2).mpr ⟨hk, hkp⟩
      obtain ⟨q1, q2⟩ := (layL_prune P ds base (base + ds.length) h5 h6 (by omega) (by omega) true
        (fun c hc1 hc2 => by simp [hall c hc1 hc2])).1 rfl
      have hone := isum_all_one map base ds.length hall
      rw [cntK_add, hone] at q1
      obtain ⟨g1, g2, g3⟩ := P.get idx hi hk
      simp only [pruneT, hkp, if_true]
      refine ⟨?_, by rw [e1, isum_add, hone, q2]; simp only [descT]; rw [descL_eq, pruneTL_length]⟩
      simp only [LayN, pruneTL_length]
      suffices hAB : T_[cntK map idx]!.b = T_[cntK map idx]!.a + ds.length ∧ (0 < ds.length →
          cntK map idx + T_[cntK map idx]!.a = cntK map base ∧ cntK map idx < cntK map base) from
        ⟨by rw [g1]; exact hkind, hAB.1, hAB.2, q1⟩
      rw [g2, g3, hab]
      by_cases hlen : 0 < ds.length
      · -- the new offsets are the new indices of the first and the last child
        have hb0 := hall base (by omega) (by omega)
        have hbl := hall (base + ds.length - 1) (by omega) (by omega)
        have hlt := cntK_lt map idx base (h4 hlen) hk
        have hc2 := cntK_succ map (base + ds.length - 1)
        rw [if_pos hbl, show base + ds.length - 1 + 1 = base + ds.length by omega, cntK_add, hone] at hc2
        rw [if_pos hlen, if_pos (by omega)]
        simp only
        rw [P.toNat base (by omega) hb0, P.toNat idx hi hk, P.toNat _ (by omega) hbl]
        omega
      · rw [if_neg hlen]; simp only; omega
    · have hnone : ∀ c, base ≤ c → c < base + ds.length → ¬ (0 : Int) ≤ map[c]! :=
        fun c hc1 hc2 h => hkeep ((hrel c hc1 hc2).mp h)
      have hsum : isum base (descT (.group i ds)) (kf map) = 0 := by
        rw [e1, isum_add, isum_all_zero map base ds.length hnone,
          (layL_prune P ds base (base + ds.length) h5 h6 (by omega) (by omega) false
            (fun c hc1 hc2 => by simp [hnone c hc1 hc2])).2 rfl]
      refine ⟨fun hk => ?_, fun _ => hsum⟩
      have hkp : ¬ copyChildren o T[idx]! = true := fun h => hkeep ⟨hk, h⟩
      obtain ⟨g1, g2, g3⟩ := P.get idx hi hk
      simp only [pruneT, hkp, Bool.false_eq_true, if_false]
      refine ⟨?_, hsum⟩
      simp only [LayN, DList.length, LayL, and_true]
      refine ⟨by rw [g1]; exact hkind, ?_, fun h => by omega⟩
      rw [g2, g3, hab]
      by_cases hlen : 0 < ds.length
      · have := hnone base (by omega) (by omega)
        rw [if_pos hlen, if_neg (by omega)]
      · rw [if_neg hlen]; simp
theorem layL_prune {o : ShrinkOpts} {T : Array PNode} {map : Array Int} {T_ : Array PNode} (P : PCtx o T map T_) :
    ∀ (ds : DList) (k base : Nat), LayL T ds k base → gWL ds = true → k + ds.length ≤ T.size →
      base + descS ds ≤ T.size → ∀ pk : Bool, (∀ c, k ≤ c → c < k + ds.length → ((0 : Int) ≤ map[c]! ↔ pk = true)) →
      (pk = true →
        LayL T_ (pruneTL (fun g => copyChildren o T[g]!) ds k base) (cntK map k) (cntK map base) ∧
        isum base (descS ds) (kf map) = descS (pruneTL (fun g => copyChildren o T[g]!) ds k base)) ∧
      (pk = false → isum base (descS ds) (kf map) = 0)
  | .nil, _, _, _, _, _, _, _, _ => ⟨fun _ => ⟨trivial, rfl⟩, fun _ => rfl⟩
  | .cons d r, k, base, hl, hw, hk, hb, pk, hpk => by
    simp only [LayL] at hl
    simp only [gWL, Bool.and_eq_true] at hw
    simp only [DList.length] at hk hpk
    simp only [descS] at hb
    have ih1 := layN_prune P d k base hl.1 hw.1 (by omega) (by omega)
    have ih2 := layL_prune P r (k + 1) (base + descT d) hl.2 hw.2 (by omega) (by omega) pk
      (fun c hc1 hc2 => hpk c (by omega) (by omega))
    have e1 : descS (.cons d r) = descT d + descS r := rfl
    constructor
    · intro hp
      have hkk : (0 : Int) ≤ map[k]! := (hpk k (by omega) (by omega)).mpr hp
      obtain ⟨q1, q2⟩ := ih1.1 hkk
      obtain ⟨r1, r2⟩ := ih2.1 hp
      have hc1 : cntK map (k + 1) = cntK map k + 1 := by rw [cntK_succ, if_pos hkk]
      have hc2 : cntK map (base + descT d) = cntK map base + descT (pruneT (fun g => copyChildren o T[g]!) d k base) := by
        rw [cntK_add, q2]
      rw [hc1, hc2] at r1
      refine ⟨?_, ?_⟩
      · simp only [pruneTL, LayL]; exact ⟨q1, r1⟩
      · rw [e1, isum_add, q2, r2]; simp only [pruneTL, descS]
    · intro hp
      have hkk : ¬ (0 : Int) ≤ map[k]! := fun h => by
        have := (hpk k (by omega) (by omega)).mp h
        rw [hp] at this; cases this
      rw [e1, isum_add, ih1.2 hkk, ih2.2 hp]
end

/-! ### the converted DAG is well formed -/

theorem shrink_eq (o : ShrinkOpts) (G : PiDag) :
    shrink o G = finishDag (pruneCopy G.T G.S (pruneMap o G.T).1).1 (pruneCopy G.T G.S (pruneMap o G.T).1).2 G.nw := rfl

/-- **the shrinking copy of a laid-out DAG of the recorder's shape is well formed**, whatever its
    edge array and string table were (both are rebuilt) and whatever the conversion options -/
theorem shrink_wellFormed_of_lay (o : ShrinkOpts) (G : PiDag) (d : DNode) (hl : LayN G.T d 0 1)
    (hn : G.T.size = 1 + descT d) (h : gTask d = true) :
    wellFormed (shrink o G) = true ∧
    ∃ d', LayN (shrink o G).T d' 0 1 ∧ (shrink o G).T.size = 1 + descT d' ∧ gTask d' = true := by
  have hw := gTask_gW d h
  have ht := treeLike_of_wfOffsets G (wfOffsets_of_lay G d hl hn hw)
  have F := pruneMap_final o G.T ht
  have C := pruneCopy_final G.T G.S (pruneMap o G.T).1
  have P : PCtx o G.T (pruneMap o G.T).1 (pruneCopy G.T G.S (pruneMap o G.T).1).1 :=
    ⟨F, fun j hj hk => ⟨(C.get j hj hk).1, (C.get j hj hk).2.1, (C.get j hj hk).2.2.1⟩⟩
  have hmain := (layN_prune P d 0 1 hl hw (by omega) (by omega)).1 F.root
  have hc0 : cntK (pruneMap o G.T).1 0 = 0 := by simp [cntK, rsum]
  have hc1 : cntK (pruneMap o G.T).1 1 = 1 := by
    have := cntK_succ (pruneMap o G.T).1 0
    rw [if_pos F.root, hc0] at this
    exact this
  rw [hc0, hc1] at hmain
  obtain ⟨q1, q2⟩ := hmain
  have hsz : (pruneCopy G.T G.S (pruneMap o G.T).1).1.size =
      1 + descT (pruneT (fun g => copyChildren o G.T[g]!) d 0 1) := by
    rw [C.sz, hn, cntK_add, hc1, q2]
  have hg := (pruneT_gram (fun g => copyChildren o G.T[g]!) d 0 1 true).2.2 h
  rw [shrink_eq]
  refine ⟨finishDag_wellFormed _ _ _ _ q1 hsz hg C.str, _, ?_, ?_, hg⟩
  · exact (finishDag_lay _ _ _ _ q1 hsz).1
  · exact (finishDag_lay _ _ _ _ q1 hsz).2

/-- the `dag2any` shrinking copy of the dump of a recorded DAG is well formed, under any conversion-time
    contraction options -/
theorem shrink_flatten_wellFormed (o : ShrinkOpts) (sc nw : Nat) (d : DNode) (h : gTask d = true) :
    wellFormed (shrink o (flatten sc nw d)) = true :=
  (shrink_wellFormed_of_lay o _ d (flatten_lay sc nw d).1 (flatten_lay sc nw d).2 h).1

end MythVerif.PiDag
