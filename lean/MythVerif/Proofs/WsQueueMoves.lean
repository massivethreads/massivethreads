import MythVerif.Proofs.WsQueueParts
/-! Steps that move a program counter without touching the window – within a class of program
    counters, taking the lock, releasing it, a thief's transient `base + 1` and its withdrawal –
    proved once for any program counters of the right classes.  At a use the class hypotheses are `rfl`. -/
namespace MythVerif.Wsq

/-- `cache`, `retd` and `ins` are read by no clause -/
theorem Inv.ghost {s : St} (h : Inv s) (c : Option Elem) (r i : List Elem) :
    Inv { s with cache := c, retd := r, ins := i } := by
  obtain ⟨g, ho, ht⟩ := (inv_iff s).1 h
  refine (inv_iff _).2 ⟨?_, ho, ht⟩
  cases g; constructor <;> assumption

/-- `p` moves to a program counter of the same class and nothing else changes -/
theorem Inv.thief_move {s : St} {p : Pid} {pc pc' : TPc} (h : Inv s) (hpc : s.tpc p = pc)
    (hl : thiefLocked pc' = thiefLocked pc) (htr : transient pc' = transient pc)
    (hf : thiefFlight pc' = thiefFlight pc) (hp : ThiefAt s pc') :
    Inv { s with tpc := upd s.tpc p pc' } := by
  obtain ⟨g, ho, ht⟩ := (inv_iff s).1 h
  refine (inv_iff _).2 ⟨?_, ho, thiefAt_upd (fun q _ => ht q) hp⟩
  cases g
  glob_step [upd_apply]

theorem Inv.thief_acquire {s : St} {p : Pid} {pc' : TPc} (h : Inv s) (hfree : s.lock = .free)
    (hl : thiefLocked pc' = true) (htr : transient pc' = false) (hp : ThiefAt s pc') :
    Inv { s with lock := .thief p, tpc := upd s.tpc p pc' } := by
  obtain ⟨g, ho, ht⟩ := (inv_iff s).1 h
  refine (inv_iff _).2 ⟨?_, ho, thiefAt_upd (fun q _ => ht q) hp⟩
  cases g
  glob_step [upd_apply]

/-- unlock; `f` is the new (empty) in-flight slot -/
theorem Inv.thief_release {s : St} {p : Pid} {pc pc' : TPc} {f : Option Elem} (h : Inv s) (hpc : s.tpc p = pc)
    (hlk : thiefLocked pc = true) (hl : thiefLocked pc' = false) (htr : transient pc = false) (hf : f = none)
    (hp : ThiefAt s pc') : Inv { s with lock := .free, tpc := upd s.tpc p pc', flT := f } := by
  subst hf
  refine h.thief_locked_step (hpc ▸ hlk) rfl rfl rfl rfl rfl (fun _ => rfl) (fun h _ => h) ?_ (hp.of_unlocked hl rfl)
  have hlock := (h.lockT p).2 (hpc ▸ hlk)
  cases ((inv_iff s).1 h).1
  glob_step [upd_apply]

/-- a lock holder stores `base + 1` -/
theorem Inv.thief_bump {s : St} {p : Pid} {pc pc' : TPc} (h : Inv s) (hpc : s.tpc p = pc)
    (hlk : thiefLocked pc = true) (htr : transient pc = false) (hf : thiefFlight pc = false)
    (hl' : thiefLocked pc' = true) (htr' : transient pc' = true)
    (hp : s.lb = s.base → ThiefAt s pc') :
    Inv { s with base := s.base + 1, tr := true, tpc := upd s.tpc p pc' } := by
  obtain ⟨_, _, _, _, hb⟩ := h.locked_view (hpc ▸ hlk)
  rw [hpc, htr] at hb
  have hlock := (h.lockT p).2 (hpc ▸ hlk)
  refine h.thief_locked_step (hpc ▸ hlk) rfl rfl rfl rfl rfl (fun _ => rfl) (fun h _ => h) ?_
    ((hp (by simpa using hb.symm)).frame rfl rfl rfl (fun _ => rfl) rfl id)
  cases ((inv_iff s).1 h).1
  glob_step [upd_apply]

/-- a lock holder withdraws its `base + 1` -/
theorem Inv.thief_rollback {s : St} {p : Pid} {pc pc' : TPc} {b : Int} (h : Inv s) (hpc : s.tpc p = pc)
    (hlk : thiefLocked pc = true) (htr : transient pc = true) (hf : thiefFlight pc = false) (hb : s.lb = b)
    (hl' : thiefLocked pc' = true) (htr' : transient pc' = false)
    (hp : ThiefAt s pc') :
    Inv { s with base := b, tr := false, tpc := upd s.tpc p pc' } := by
  have hlock := (h.lockT p).2 (hpc ▸ hlk)
  refine h.thief_locked_step (hpc ▸ hlk) rfl rfl rfl rfl rfl (fun _ => rfl) (fun h _ => h) ?_ (hp.frame rfl rfl rfl (fun _ => rfl) rfl id)
  cases ((inv_iff s).1 h).1
  glob_step [upd_apply]

/-- the owner moves to a program counter of the same class and nothing else changes -/
theorem Inv.owner_move {s : St} {pc pc' : OPc} (h : Inv s) (hpc : s.opc = pc)
    (hl : ownerLocked pc' = ownerLocked pc) (hm : midPop pc' = midPop pc) (ht : topSync pc' = topSync pc)
    (hb : baseSync pc' = baseSync pc) (hf : ownerFlight pc' = ownerFlight pc) (hp : OwnerAt s pc') :
    Inv { s with opc := pc' } := by
  obtain ⟨g, _, ht⟩ := (inv_iff s).1 h
  refine (inv_iff _).2 ⟨?_, hp, ht⟩
  cases g
  glob_step []

theorem Inv.owner_acquire {s : St} {pc pc' : OPc} (h : Inv s) (hpc : s.opc = pc) (hfree : s.lock = .free)
    (hl : ownerLocked pc' = true) (hm : midPop pc' = midPop pc) (ht : topSync pc' = topSync pc)
    (hb : baseSync pc' = baseSync pc) (hf : ownerFlight pc' = ownerFlight pc) (hp : OwnerAt s pc') :
    Inv { s with lock := .owner, opc := pc' } := by
  obtain ⟨g, _, ht⟩ := (inv_iff s).1 h
  refine (inv_iff _).2 ⟨?_, hp, ht⟩
  cases g
  glob_step []

/-- unlock; `f` is the new (empty) in-flight slot of the owner -/
theorem Inv.owner_release {s : St} {pc pc' : OPc} {f : Option Elem} (h : Inv s) (hpc : s.opc = pc)
    (hlk : ownerLocked pc = true) (hl : ownerLocked pc' = false) (hm : midPop pc' = midPop pc)
    (ht : topSync pc = true) (hb : baseSync pc = true) (hfl : ownerFlight pc' = false) (hf : f = none)
    (hp : OwnerAt s pc') :
    Inv { s with lock := .free, opc := pc', flO := f } := by
  obtain ⟨g, _, ht⟩ := (inv_iff s).1 h
  have hs := unlocked_sync hl
  refine (inv_iff _).2 ⟨?_, ?_, ht⟩
  case refine_2 => revert hp hfl; cases pc' <;> simp [OwnerAt, ownerFlight]
  cases g
  glob_step []

end MythVerif.Wsq
