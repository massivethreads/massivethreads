import MythVerif.Proofs.WsQueueTsoAcct
/-! Index bounds on the TSO machine (for capacities `0 ≤ size`): the logical window – and the
    owner's view of it while a shift entry is buffered – stays inside `[0, size]`, the `myth_assert`s
    of the re-centring and insertion code hold (`offset < 0`, `t < size`, `offset > 0`, `b > 0`), and
    therefore `abort()` is reached exactly on a full deque.  A second invariant `Bnd` on top of `Inv`.

    `Bnd` is cut into its clauses without a program counter (`Bnd.Glob`), the clause of the owner's
    program counter (`Bnd.OwnerAt`) and the clause of each participant's (`Bnd.ThiefAt`), as functions
    of the words they read, so that a step leaves alone whatever it does not write; what the invariant
    `Inv` contributes to the arithmetic is collected in `OwnerKnows` / `ThiefKnows`. -/
namespace MythVerif.WsqTso
open MythVerif.Wsq

theorem rcOff_bnd (b : Int) (h : 0 < b) : rcOff b < 0 ∧ 0 ≤ b + rcOff b := by
  have e : rcOff b = -((b + 1) / 2) := by
    unfold rcOff
    rw [Int.tdiv_eq_ediv]
    have : Int.sign 2 = 1 := by decide
    rw [this]
    split
    · rename_i h1
      rcases h1 with h1 | h1 <;> omega
    · rename_i h1
      have : ¬ (2:Int) ∣ (-b - 1) := fun h2 => h1 (Or.inr h2)
      omega
  rw [e]; omega

structure Bnd (s : St) : Prop where
  sz   : 0 ≤ s.size
  lb0  : 0 ≤ s.lb
  lts  : s.lt ≤ s.size
  lbv  : 0 ≤ s.lb + s.sh
  ltv  : s.lt + s.sh ≤ s.size
  pu1  : ∀ e t, s.opc = .pu1 e t → t < s.size
  pu2  : ∀ e t, s.opc = .pu2 e t → t < s.size
  pum  : ∀ e off, s.opc = .pum e off → off < 0 ∧ 0 ≤ s.lb + off
  pus  : ∀ e off, s.opc = .pus e off → off < 0 ∧ s.lt + s.sh < s.size
  puv  : ∀ e off, s.opc = .puv e off → s.lt + s.sh < s.size
  pux  : ∀ e t, s.opc = .pux e t → t < s.size
  pt3  : ∀ e off, s.opc = .pt3 e off → 0 < off ∧ s.lt + off ≤ s.size ∧ s.lb = 0
  pt4  : ∀ e off, s.opc = .pt4 e off → 0 < off ∧ 0 < s.lb + s.sh
  pt5  : ∀ e off, s.opc = .pt5 e off → 0 < s.lb + s.sh
  pt6  : ∀ e, s.opc = .pt6 e → 0 < s.lb + s.sh
  pt7  : ∀ e b, s.opc = .pt7 e b → 0 < b
  pt8  : ∀ e b, s.opc = .pt8 e b → 0 < b
  pt9  : s.opc = .pt9 → s.bufO ≠ [] → 0 < s.lb + s.sh
  tp1b : ∀ p e, s.tpc p = .tp1b e → 0 < s.lb
  tp2  : ∀ p e b, s.tpc p = .tp2 e b → 0 < b
  tp3  : ∀ p e, s.tpc p = .tp3 e → 0 < s.lb
  tp4  : ∀ p ok, s.tpc p = .tp4 ok → s.bufT p ≠ [] → 0 < s.lb
  -- memory values (what a lock-free load may return, also in the middle of a re-centring) and slot loads
  base0 : 0 ≤ s.base
  tops : s.top ≤ s.size
  pk2  : ∀ p b, s.tpc p = .pk2 b → 0 ≤ b
  pk3  : ∀ p b, s.tpc p = .pk3 b → 0 ≤ b ∧ b < s.size
  tk3  : ∀ p b x, s.tpc p = .tk3 b x → 0 ≤ b
  vk3  : ∀ p b, s.tpc p = .vk3 b → b < s.size
  po3  : ∀ t x, s.opc = .po3 t x → t < s.size
  po5  : ∀ t x, s.opc = .po5 t x → 0 ≤ t ∧ t < s.size
  po5b : ∀ t r, s.opc = .po5b t r → 0 ≤ t ∧ t < s.size

/-! ### `Bnd` by the words it reads -/

def Bnd.Glob (size lb lt sh base top : Int) : Prop :=
  0 ≤ size ∧ 0 ≤ lb ∧ lt ≤ size ∧ 0 ≤ lb + sh ∧ lt + sh ≤ size ∧ 0 ≤ base ∧ top ≤ size

def Bnd.OwnerAt (size lb lt sh : Int) (buf : List Sto) : OPc → Prop
  | .pu1 _ t | .pu2 _ t | .pux _ t | .po3 t _ => t < size
  | .pum _ off => off < 0 ∧ 0 ≤ lb + off
  | .pus _ off => off < 0 ∧ lt + sh < size
  | .puv _ _ => lt + sh < size
  | .pt3 _ off => 0 < off ∧ lt + off ≤ size ∧ lb = 0
  | .pt4 _ off => 0 < off ∧ 0 < lb + sh
  | .pt5 _ _ | .pt6 _ => 0 < lb + sh
  | .pt7 _ b | .pt8 _ b => 0 < b
  | .pt9 => buf ≠ [] → 0 < lb + sh
  | .po5 t _ | .po5b t _ => 0 ≤ t ∧ t < size
  | _ => True

def Bnd.ThiefAt (size lb : Int) (buf : List Sto) : TPc → Prop
  | .tp1b _ | .tp3 _ => 0 < lb
  | .tp2 _ b => 0 < b
  | .tp4 _ => buf ≠ [] → 0 < lb
  | .pk2 b | .tk3 b _ => 0 ≤ b
  | .pk3 b => 0 ≤ b ∧ b < size
  | .vk3 b => b < size
  | _ => True

open Bnd

theorem Bnd.glob {s : St} (hb : Bnd s) : Glob s.size s.lb s.lt s.sh s.base s.top :=
  ⟨hb.sz, hb.lb0, hb.lts, hb.lbv, hb.ltv, hb.base0, hb.tops⟩

theorem Bnd.ownerAt {s : St} (hb : Bnd s) : OwnerAt s.size s.lb s.lt s.sh s.bufO s.opc := by
  cases hpc : s.opc with
  | pu1 e t => exact hb.pu1 e t hpc
  | pu2 e t => exact hb.pu2 e t hpc
  | pux e t => exact hb.pux e t hpc
  | po3 t x => exact hb.po3 t x hpc
  | pum e off => exact hb.pum e off hpc
  | pus e off => exact hb.pus e off hpc
  | puv e off => exact hb.puv e off hpc
  | pt3 e off => exact hb.pt3 e off hpc
  | pt4 e off => exact hb.pt4 e off hpc
  | pt5 e off => exact hb.pt5 e off hpc
  | pt6 e => exact hb.pt6 e hpc
  | pt7 e b => exact hb.pt7 e b hpc
  | pt8 e b => exact hb.pt8 e b hpc
  | pt9 => exact hb.pt9 hpc
  | po5 t x => exact hb.po5 t x hpc
  | po5b t r => exact hb.po5b t r hpc
  | _ => trivial

theorem Bnd.thiefAt {s : St} (hb : Bnd s) (p : Pid) : ThiefAt s.size s.lb (s.bufT p) (s.tpc p) := by
  cases hpc : s.tpc p with
  | tp1b e => exact hb.tp1b p e hpc
  | tp3 e => exact hb.tp3 p e hpc
  | tp2 e b => exact hb.tp2 p e b hpc
  | tp4 ok => exact hb.tp4 p ok hpc
  | pk2 b => exact hb.pk2 p b hpc
  | tk3 b x => exact hb.tk3 p b x hpc
  | pk3 b => exact hb.pk3 p b hpc
  | vk3 b => exact hb.vk3 p b hpc
  | _ => trivial

theorem Bnd.of_parts {s : St} (hg : Glob s.size s.lb s.lt s.sh s.base s.top)
    (ho : OwnerAt s.size s.lb s.lt s.sh s.bufO s.opc) (ht : ∀ p, ThiefAt s.size s.lb (s.bufT p) (s.tpc p)) :
    Bnd s :=
  have ho' : ∀ pc, s.opc = pc → OwnerAt s.size s.lb s.lt s.sh s.bufO pc := fun _ e => e ▸ ho
  have ht' : ∀ p pc, s.tpc p = pc → ThiefAt s.size s.lb (s.bufT p) pc := fun p _ e => e ▸ ht p
  { sz := hg.1, lb0 := hg.2.1, lts := hg.2.2.1, lbv := hg.2.2.2.1, ltv := hg.2.2.2.2.1
    base0 := hg.2.2.2.2.2.1, tops := hg.2.2.2.2.2.2
    pu1 := fun _ _ => ho' _, pu2 := fun _ _ => ho' _, pum := fun _ _ => ho' _, pus := fun _ _ => ho' _
    puv := fun _ _ => ho' _, pux := fun _ _ => ho' _, pt3 := fun _ _ => ho' _, pt4 := fun _ _ => ho' _
    pt5 := fun _ _ => ho' _, pt6 := fun _ => ho' _, pt7 := fun _ _ => ho' _, pt8 := fun _ _ => ho' _
    pt9 := ho' _, po3 := fun _ _ => ho' _, po5 := fun _ _ => ho' _, po5b := fun _ _ => ho' _
    tp1b := fun p _ => ht' p _, tp2 := fun p _ _ => ht' p _, tp3 := fun p _ => ht' p _
    tp4 := fun p _ => ht' p _, pk2 := fun p _ => ht' p _, pk3 := fun p _ => ht' p _
    tk3 := fun p _ _ => ht' p _, vk3 := fun p _ => ht' p _ }

/-! ### Frames

    A locked section is the only place whose clause reads the window (`lb`, `lt`, `sh`) or the
    own buffer; the clauses of the other program counters bound locals against `size`. -/

theorem Bnd.OwnerAt.of_unlocked {size lb lt sh lb' lt' sh' : Int} {buf buf' : List Sto} {pc : OPc}
    (hl : ownerLocked pc = false) (h : OwnerAt size lb lt sh buf pc) : OwnerAt size lb' lt' sh' buf' pc := by
  cases pc <;> simp only [ownerLocked, reduceCtorEq] at hl <;> exact h

theorem Bnd.ThiefAt.of_unlocked {size lb lb' : Int} {buf buf' : List Sto} {pc : TPc}
    (hl : thiefLocked pc = false) (h : ThiefAt size lb buf pc) : ThiefAt size lb' buf' pc := by
  cases pc <;> simp only [thiefLocked, reduceCtorEq] at hl <;> exact h

theorem Bnd.OwnerAt.of_buf {size lb lt sh : Int} {buf buf' : List Sto} {pc : OPc}
    (hbuf : buf' ≠ [] → buf ≠ []) (h : OwnerAt size lb lt sh buf pc) : OwnerAt size lb lt sh buf' pc := by
  cases pc
  case pt9 => exact fun hne => h (hbuf hne)
  all_goals exact h

/-- on the reset path the clauses read the window as the owner sees it (`lb + sh`, `lt + sh`): the
    drain of the shift entry does not change them -/
theorem Bnd.OwnerAt.drain_shift {size lb lt sh : Int} {buf buf' : List Sto} {pc : OPc}
    (hr : resetting pc = true) (hbuf : buf ≠ []) (h : OwnerAt size lb lt sh buf pc) :
    OwnerAt size (lb + sh) (lt + sh) 0 buf' pc := by
  cases pc <;> simp only [resetting, reduceCtorEq] at hr
  case pt9 => exact fun _ => by have := h hbuf; omega
  all_goals simp only [OwnerAt] at h ⊢ <;> omega

theorem Bnd.ThiefAt.mono {size lb lb' : Int} {buf buf' : List Sto} {pc : TPc}
    (hlb : lb ≤ lb') (hbuf : buf' ≠ [] → buf ≠ []) (h : ThiefAt size lb buf pc) : ThiefAt size lb' buf' pc := by
  cases pc
  case tp4 => exact fun hne => Int.lt_of_lt_of_le (h (hbuf hne)) hlb
  all_goals simp only [Bnd.ThiefAt] at h ⊢ <;> omega

/-- participant `p` moves (program counter, own buffer, possibly `lb` upwards): the others keep their clauses -/
theorem Bnd.ThiefAt.move {size lb lb' : Int} {bufT bufT' : Pid → List Sto} {tpc tpc' : Pid → TPc} (p : Pid)
    (ht : ∀ q, ThiefAt size lb (bufT q) (tpc q)) (hlb : lb ≤ lb')
    (hbuf : ∀ q, q ≠ p → bufT' q = bufT q) (hpc : ∀ q, q ≠ p → tpc' q = tpc q)
    (hp : ThiefAt size lb' (bufT' p) (tpc' p)) : ∀ q, ThiefAt size lb' (bufT' q) (tpc' q) := by
  intro q
  by_cases hq : q = p
  · rw [hq]; exact hp
  · rw [hbuf q hq, hpc q hq]; exact (ht q).mono hlb id

/-! ### What the invariant contributes -/

/-- what the owner's loads of `top` / `base` return where the bounds need it -/
theorem owner_views (s : St) (h : Inv s) :
    (∀ e, s.opc = .pub e → viewBase s.bufO s.base = s.lb ∧ s.lt = s.size) ∧
    (∀ e, s.opc = .pt1 e → viewBase s.bufO s.base = s.lb) ∧
    (∀ e, s.opc = .pt2 e → viewTop s.bufO s.top = s.lt ∧ s.lb = 0) ∧
    (∀ e off, s.opc = .pum e off → viewBase s.bufO s.base = s.lb ∧ viewTop s.bufO s.top = s.lt) ∧
    (∀ e off, s.opc = .pt3 e off → viewBase s.bufO s.base = s.lb ∧ viewTop s.bufO s.top = s.lt) := by
  have htr : s.lock = .owner → s.tr = false := by
    intro hl
    cases ht : s.tr with
    | false => rfl
    | true => obtain ⟨q, hq⟩ := h.trn ht; rw [hl] at hq; cases hq
  refine ⟨(overflow_tests_logical s h).1, (base_tests_logical s h).1, (overflow_tests_logical s h).2, ?_, ?_⟩
  · intro e off hpc
    have hl := h.lockO.2 (by simp [hpc, ownerLocked])
    have hb := h.lbase (by simp [hpc, resetting])
    obtain ⟨h1, h2⟩ := h.pum e off hpc
    simp [htr hl] at hb
    rw [h1, viewBase_nil, viewTop_nil]; exact ⟨hb, h2⟩
  · intro e off hpc
    have hl := h.lockO.2 (by simp [hpc, ownerLocked])
    have hb := h.lbase (by simp [hpc, resetting])
    obtain ⟨h1, h2⟩ := h.pt3 e off hpc
    simp [htr hl] at hb
    rw [h1, viewBase_nil, viewTop_nil]; exact ⟨hb, h2⟩

/-- the owner's locals and the values its next loads return, at the program counters where a bound
    depends on them (equations between integers, ready for `omega`) -/
def OwnerKnows (s : St) : OPc → Prop
  | .pu0f _ t => t = s.lt
  | .pub _ => viewBase s.bufO s.base = s.lb
  | .pux _ t => t = s.lt + s.sh
  | .pu2 _ t => t = s.lt ∧ s.sh = 0
  | .po2 t => s.lt = t + 1
  | .po4 t => s.lt = t + 1 ∧ viewBase s.bufO s.base = s.base
  | .po7 | .cl1 => s.sh = 0
  | .pt1 _ => viewBase s.bufO s.base = s.lb ∧ s.sh = 0
  | .pt2 _ => viewTop s.bufO s.top = s.lt ∧ s.lb = 0
  | .pt7 _ b | .pt8 _ b => b = s.lb + s.sh
  | _ => True

theorem Inv.ownerKnows {s : St} (h : Inv s) : OwnerKnows s s.opc := by
  have hsh : resetting s.opc = false → s.sh = 0 := h.shz
  cases hpc : s.opc with
  | pu0f e t => exact h.pu0f e t hpc
  | pub e => exact ((owner_views s h).1 e hpc).1
  | pux e t => exact (h.pux e t hpc).1
  | pu2 e t => exact ⟨(h.pu2 e t hpc).1, hsh (by rw [hpc]; rfl)⟩
  | po2 t => exact (h.po2 t hpc).2.2.1
  | po4 t => exact ⟨(h.po4 t hpc).2.2.1, by rw [(h.po4 t hpc).1]; rfl⟩
  | po7 => exact hsh (by rw [hpc]; rfl)
  | cl1 => exact hsh (by rw [hpc]; rfl)
  | pt1 e => exact ⟨(owner_views s h).2.1 e hpc, hsh (by rw [hpc]; rfl)⟩
  | pt2 e => exact (owner_views s h).2.2.1 e hpc
  | pt7 e b => exact (h.pt7 e b hpc).1
  | pt8 e b => exact (h.pt8 e b hpc).1
  | _ => trivial

/-- the same for participant `p` -/
def ThiefKnows (s : St) (p : Pid) : TPc → Prop
  | .tk2 b => s.lb = b
  | .tp1 _ => viewBase (s.bufT p) s.base = s.lb ∧ s.bufT p = []
  | .tp2 _ b => b = s.lb
  | .pk1 => viewBase (s.bufT p) s.base = s.base
  | .pk2 _ | .vk2 _ => viewTop (s.bufT p) s.top = s.top
  | _ => True

theorem Inv.thiefKnows {s : St} (h : Inv s) (p : Pid) : ThiefKnows s p (s.tpc p) := by
  have hE : mayBuf (s.tpc p) = false → s.bufT p = [] := h.tbufE p
  cases hpc : s.tpc p with
  | tk2 b => exact (h.tk2 p b hpc).1
  | tp1 e => exact ⟨(base_tests_logical s h).2 p e hpc, hE (by rw [hpc]; rfl)⟩
  | tp2 e b => exact h.tp2 p e b hpc
  | pk1 => simp only [ThiefKnows, hE (by rw [hpc]; rfl), viewBase_nil]
  | pk2 b => simp only [ThiefKnows, hE (by rw [hpc]; rfl), viewTop_nil]
  | vk2 b => simp only [ThiefKnows, hE (by rw [hpc]; rfl), viewTop_nil]
  | _ => trivial

theorem init_bnd (n : Int) (hn : 0 ≤ n) : Bnd (init FenceCfg.code n) :=
  .of_parts (by simp only [init, Bnd.Glob]; omega) trivial fun _ => trivial

end MythVerif.WsqTso
