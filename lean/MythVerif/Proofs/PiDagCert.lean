import MythVerif.Proofs.PiDagReplay
/-! What the executable checker `wellFormed` establishes, in the form the traversal proof uses (`Cert`);
the in-degree arrays as edge counts. -/
namespace MythVerif.PiDag

theorem positionsFrom_some : ∀ (l : List Nat) (k : Nat) (p : Array (Option Nat)) (i : Nat),
    ((positionsFrom k l p)[i]!).isSome = true → (p[i]!).isSome = true ∨ i ∈ l := by
  intro l
  induction l with
  | nil => intro k p i h; left; simpa [positionsFrom] using h
  | cons u r ih =>
    intro k p i h
    simp only [positionsFrom] at h
    rcases ih (k + 1) _ i h with h' | h'
    · rw [setIfInBounds_get!] at h'
      split at h'
      · rename_i hh; right; simp [hh.1]
      · left; exact h'
    · right; simp [h']

theorem positions_some (n : Nat) (ord : List Nat) (i : Nat)
    (h : ((positions n ord)[i]!).isSome = true) : i ∈ ord := by
  rcases positionsFrom_some ord 0 (Array.replicate n none) i h with h' | h'
  · by_cases hi : i < n
    · simp [hi] at h'
    · simp [hi] at h'; cases h'
  · exact h'

/-! #### in-degrees through folds -/

theorem foldl_modify_size (L : List PEdge) (a : Array Nat) :
    (L.foldl (fun rc e => rc.modify e.v (· + 1)) a).size = a.size :=
  (foldl_modify_inc (fun e : PEdge => e.v) L a).1

theorem foldl_modify_get (L : List PEdge) (a : Array Nat) (v : Nat) (hv : v < a.size) :
    (L.foldl (fun rc e => rc.modify e.v (· + 1)) a)[v]! = a[v]! + cntV L v :=
  (foldl_modify_inc (fun e : PEdge => e.v) L a).2 v hv

theorem indegrees_get (G : PiDag) (v : Nat) (hv : v < G.T.size) : (indegrees G)[v]! = cntV G.E.toList v := by
  unfold indegrees
  rw [← Array.foldl_toList, foldl_modify_get _ _ v (by simpa using hv), replicate_get!]
  omega

theorem indegrees_size (G : PiDag) : (indegrees G).size = G.T.size := by
  unfold indegrees
  rw [← Array.foldl_toList, foldl_modify_size]; simp

theorem sliceDegrees_get (G : PiDag) (v : Nat) (hv : v < G.T.size) :
    (sliceDegrees G)[v]! = rsum G.T.size (fun u => cntV (outEdges G u) v) := by
  have h := foldl_range_inv
    (fun k a => a.size = G.T.size ∧ ∀ v, v < G.T.size → a[v]! = rsum k (fun u => cntV (outEdges G u) v))
    (fun rc u => (outEdges G u).foldl (fun rc e => rc.modify e.v (· + 1)) rc)
    (Array.replicate G.T.size 0) ⟨by simp, fun v _ => by simp [rsum, replicate_get!]⟩ G.T.size
    (fun k a _ ha => ⟨by rw [foldl_modify_size, ha.1], fun v hv => by
      rw [foldl_modify_get _ _ v (by rw [ha.1]; exact hv), ha.2 v hv, rsum_succ]⟩)
  exact h.2 v hv

/-! #### unpacking the checker -/

theorem checkOrder_facts (G : PiDag) (ord : List Nat) (pos : Array (Option Nat)) (indeg : Array Nat) (fl : Nat)
    (h : checkOrder G ord pos indeg fl = true) :
    ord.head? = some fl ∧
    (∀ u ∈ ord, u < G.T.size ∧ isLeaf G.T[u]! = true) ∧
    (∀ i, i < G.T.size →
      if isLeaf G.T[i]! = true then (pos[i]!).isSome = true ∧ (if i = fl then indeg[i]! = 0 else 0 < indeg[i]!)
      else indeg[i]! = 0) ∧
    (∀ u, u < G.T.size → ∀ e ∈ outEdges G u, ∃ a b, pos[u]! = some a ∧ pos[e.v]! = some b ∧ a < b) := by
  unfold checkOrder at h
  simp only at h
  split at h; · cases h
  rename_i h1
  split at h; · cases h
  rename_i h2
  split at h; · cases h
  split at h; · cases h
  rename_i h4
  refine ⟨by simpa using h1, ?_, ?_, ?_⟩
  · intro u hu
    simp at h2
    exact h2 u hu
  · intro i hi
    simp at h4
    exact h4 i hi
  · intro u hu e he
    have := List.all_eq_true.mp h u (by simpa using hu)
    have := List.all_eq_true.mp this e he
    split at this
    · rename_i a b ha hb; exact ⟨a, b, ha, hb, by simpa using this⟩
    · cases this

theorem arrEqUpTo_get (n : Nat) (a b : Array Nat) (h : arrEqUpTo n a b = true) (v : Nat) (hv : v < n) :
    a[v]! = b[v]! := by
  unfold arrEqUpTo at h
  have := List.all_eq_true.mp h v (by simpa using hv)
  simpa using this

theorem degrees_of_wf (G : PiDag) (h : wfDegrees G = true) (v : Nat) (hv : v < G.T.size) :
    (indegrees G)[v]! = rsum G.T.size (fun u => cntV (outEdges G u) v) := by
  rw [← arrEqUpTo_get _ _ _ h v hv, sliceDegrees_get G v hv]

/-- the rank function the checker computes -/
def rankOf (G : PiDag) (i : Nat) : Option Nat := (positions G.T.size (eliminate G))[i]!

/-- **a DAG the checker accepts is certified** -/
theorem cert_of_wf (G : PiDag) (h : wellFormed G = true) : Cert G (rankOf G) := by
  unfold wellFormed wfReport at h
  simp only [Bool.and_eq_true] at h
  obtain ⟨⟨_, hdeg⟩, hcert⟩ := h
  unfold wfCertificate at hcert
  obtain ⟨c1, c2, c4, c5⟩ := checkOrder_facts G _ _ _ _ hcert
  have hflmem : firstLeaf G ∈ eliminate G := by
    cases hl : eliminate G with
    | nil => rw [hl] at c1; simp at c1
    | cons a r => rw [hl] at c1; simp at c1; simp [c1]
  have hfl := c2 _ hflmem
  have c4fl := c4 _ hfl.1
  rw [hfl.2] at c4fl
  simp only [if_true] at c4fl
  exact {
    fl_lt := hfl.1
    fl_leaf := hfl.2
    ranked_leaf := fun i hi => c2 i (positions_some _ _ i hi)
    leaf_ranked := fun i hi hl => by have := c4 i hi; rw [hl] at this; exact this.1
    indeg_fl := c4fl.2
    indeg_leaf := fun i hi hl hne => by
      have := c4 i hi; rw [hl] at this; simp only [if_true, hne, if_false] at this; exact this.2
    indeg_inner := fun i hi hl => by have := c4 i hi; rw [hl] at this; simpa using this
    forward := fun u hu e he => c5 u hu e he
    degrees := degrees_of_wf G hdeg
    indeg_size := indegrees_size G }

end MythVerif.PiDag
