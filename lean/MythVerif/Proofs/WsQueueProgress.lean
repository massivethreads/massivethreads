import MythVerif.Proofs.WsQueueSC
/-! Progress: the `none` branches of the model that exist only because of a ghost look-up are
    unreachable, so a disabled model step can never hide an implementation behaviour. -/
namespace MythVerif.Wsq

theorem length_pos_getLast? (l : List Elem) (h : 0 < l.length) : ∃ x, l.getLast? = some x := by
  cases hl : l.getLast? with
  | some x => exact ⟨x, rfl⟩
  | none => rw [List.getLast?_eq_none_iff] at hl; subst hl; simp at h

/-- the owner can always take its next step (the ghost look-ups never block) unless it is idle or dead -/
theorem progress_owner (s : St) (h : Inv s) (h1 : s.opc ≠ .idle) (h2 : s.opc ≠ .aborted) (h3 : s.opc ≠ .assertFail) :
    (stepO s).isSome = true := by
  cases hpc : s.opc <;> simp only [stepO, hpc]
  case idle => exact absurd hpc h1
  case aborted => exact absurd hpc h2
  case assertFail => exact absurd hpc h3
  case po2 t | po4 t =>
    have hv := h.owner_view hpc rfl rfl; simp [midPop, ownerLocked] at hv
    first | have := h.po2 t hpc | have := h.po4 t hpc
    have := h.len
    split
    · obtain ⟨x, hx⟩ := length_pos_getLast? s.A (by omega)
      simp [hx]
    · rfl
  all_goals (first | rfl | (split <;> rfl))

/-- a participant can always take its next step, except while it waits for the callback -/
theorem progress_thief (s : St) (h : Inv s) (p : Pid) (h1 : s.tpc p ≠ .idle) (h2 : ∀ b r, s.tpc p ≠ .wkd b r) :
    (stepT s p).isSome = true := by
  cases hpc : s.tpc p <;> simp only [stepT, hpc]
  case idle => exact absurd hpc h1
  case wkd b r => exact absurd hpc (h2 b r)
  case tk2 b =>
    split
    · have hv := h.locked_view (p := p) (by rw [hpc]; rfl)
      have := h.tk2 p b hpc; have e4 := h.len
      cases hA : s.A with
      | nil => simp [hA] at e4; omega
      | cons x A' => simp
    · rfl
  all_goals (first | rfl | (split <;> rfl))

/-- the callback's verdict can always be delivered -/
theorem progress_decide (s : St) (h : Inv s) (p : Pid) (b : Int) (r : Option Elem) (hpc : s.tpc p = .wkd b r)
    (a : Bool) : (stepD s p a).isSome = true := by
  simp only [stepD, hpc]
  split
  · have e := h.wkd p b r hpc
    have e4 := h.len
    cases hA : s.A with
    | nil => simp [hA] at e4; omega
    | cons x A' => simp
  · rfl
end MythVerif.Wsq
