import MythVerif.Model.JcArith
/-!
Arithmetic of the join counter's packed word, for every `n`.  `b = calcBits n`.

* `calcBits_spec`      : `n < 2^b`, and minimality as the code has it (`b = 0 ∨ 2^(b-1) ≤ n`)
* `mask_identity`      : `n &&& mask n = n` (the `assert` of init), `s &&& mask n = s % 2^b`, `s >>> b = s / 2^b`
* `unpack_pack`        : the two fields of `waiters * 2^b + decs` (`decs < 2^b`)
* `wait_step_fields`   : adding `2^b` leaves the decrement field unchanged, waiters + 1
* `dec_step_fields`    : adding 1 while `decs < n` leaves the waiter field unchanged, decs + 1 (the `assert` of dec)
* `n0_case`            : `n = 0`: `b = 0`, mask 0, every state reads "all decrements seen", `dec` is always "excess"
* `representable_iff`  : for `n < 2^62`, `Representable n w` ⇔ every word `pack b d w`, `d ≤ n`, is `< 2^63`
* `bv64_*`             : on representable words the `BitVec 64` (machine) operations compute the same fields
-/
namespace MythVerif.JcArith

theorem two_pow_succ (b : Nat) : 2 ^ (b + 1) = 2 * 2 ^ b := by rw [Nat.pow_succ]; omega

theorem calcBitsFrom_spec (x b : Nat) (hb : b = 0 ∨ 2 ^ (b - 1) ≤ x) :
    x < 2 ^ calcBitsFrom x b ∧ (calcBitsFrom x b = 0 ∨ 2 ^ (calcBitsFrom x b - 1) ≤ x) ∧ b ≤ calcBitsFrom x b := by
  fun_induction calcBitsFrom x b with
  | case1 b h ih =>
    have := ih (Or.inr (by simpa using h))
    omega
  | case2 b h => exact ⟨by omega, hb, Nat.le_refl _⟩

/-- **`calc_bits`**: `n < 2^b`, and `b` is minimal: `b = 0` or already `2^(b-1) ≤ n` -/
theorem calcBits_spec (n : Nat) :
    n < 2 ^ calcBits n ∧ (calcBits n = 0 ∨ 2 ^ (calcBits n - 1) ≤ n) := by
  have := calcBitsFrom_spec n 0 (Or.inl rfl)
  exact ⟨this.1, this.2.1⟩

/-- minimality, in the usual form: no smaller width is enough -/
theorem calcBits_minimal (n b' : Nat) (h : n < 2 ^ b') : calcBits n ≤ b' := by
  rcases (calcBits_spec n).2 with h0 | h1
  · omega
  · apply Classical.byContradiction
    intro hc
    have : 2 ^ b' ≤ 2 ^ (calcBits n - 1) := Nat.pow_le_pow_right (by omega) (by omega)
    omega

/-- the comment in the source: 1 → 1, 2 → 2, 3 → 2, 4 → 3; and 0 → 0 -/
theorem calcBits_examples : calcBits 0 = 0 ∧ calcBits 1 = 1 ∧ calcBits 2 = 2 ∧ calcBits 3 = 2 ∧ calcBits 4 = 3 := by
  refine ⟨?_, ?_, ?_, ?_, ?_⟩ <;> simp [calcBits, calcBitsFrom]

theorem calcBits_eq_zero_iff (n : Nat) : calcBits n = 0 ↔ n = 0 := by
  have h := calcBits_spec n
  constructor
  · intro h0; rw [h0] at h; omega
  · rintro rfl; exact calcBits_examples.1

theorem decsOf_eq (n s : Nat) : decsOf n s = s % 2 ^ calcBits n := by
  unfold decsOf mask; exact Nat.and_two_pow_sub_one_eq_mod s _
theorem waitersOf_eq (n s : Nat) : waitersOf n s = s / 2 ^ calcBits n := Nat.shiftRight_eq_div_pow s _

/-- **mask identity** (the `assert` of `myth_join_counter_init_body`), with the arithmetic reading
    of the two field extractions -/
theorem mask_identity (n : Nat) :
    n &&& mask n = n ∧ (∀ s, s &&& mask n = s % 2 ^ calcBits n) ∧ (∀ s, s >>> calcBits n = s / 2 ^ calcBits n) :=
  ⟨(decsOf_eq n n).trans (Nat.mod_eq_of_lt (calcBits_spec n).1), decsOf_eq n, fun s => Nat.shiftRight_eq_div_pow s _⟩

theorem pow_pos' (b : Nat) : 0 < 2 ^ b := Nat.pos_of_ne_zero (by simp)

/-- the two fields of a packed word -/
theorem unpack_pack (n d w : Nat) (hd : d < 2 ^ calcBits n) :
    decsOf n (pack (calcBits n) d w) = d ∧ waitersOf n (pack (calcBits n) d w) = w := by
  rw [decsOf_eq, waitersOf_eq]; unfold pack
  constructor
  · rw [Nat.add_comm, Nat.add_mul_mod_self_right]; exact Nat.mod_eq_of_lt hd
  · rw [Nat.add_comm, Nat.add_mul_div_right _ _ (pow_pos' _), Nat.div_eq_of_lt hd]; omega

/-- every word is the packing of its two fields -/
theorem pack_unpack (n s : Nat) : pack (calcBits n) (decsOf n s) (waitersOf n s) = s := by
  rw [decsOf_eq, waitersOf_eq]; unfold pack
  have := Nat.div_add_mod s (2 ^ calcBits n)
  rw [Nat.mul_comm] at this; exact this

/-- **field independence, wait**: adding `2^b` (a waiter announces itself) leaves the decrement
    field unchanged and adds one waiter -/
theorem wait_step_fields (n s : Nat) :
    decsOf n (s + 2 ^ calcBits n) = decsOf n s ∧ waitersOf n (s + 2 ^ calcBits n) = waitersOf n s + 1 := by
  simp only [decsOf_eq, waitersOf_eq]
  constructor
  · exact Nat.add_mod_right s _
  · exact Nat.add_div_right s (pow_pos' _)

/-- **field independence, dec**: adding 1 while fewer than `n` decrements have been seen leaves the
    waiter field unchanged and adds one decrement (the `assert` of `myth_join_counter_dec_body`) -/
theorem dec_step_fields (n s : Nat) (h : decsOf n s < n) :
    waitersOf n (s + 1) = waitersOf n s ∧ decsOf n (s + 1) = decsOf n s + 1 := by
  simp only [decsOf_eq, waitersOf_eq] at *
  have hn := (calcBits_spec n).1
  have hp := pow_pos' (calcBits n)
  generalize 2 ^ calcBits n = P at *
  have hdm := Nat.div_add_mod s P
  have hlt : s % P + 1 < P := by omega
  constructor
  · have h1 : s + 1 = (s % P + 1) + (s / P) * P := by rw [Nat.mul_comm]; omega
    rw [h1, Nat.add_mul_div_right _ _ hp, Nat.div_eq_of_lt hlt]; omega
  · have h1 : s + 1 = (s % P + 1) + (s / P) * P := by rw [Nat.mul_comm]; omega
    rw [h1, Nat.add_mul_mod_self_right, Nat.mod_eq_of_lt hlt]

/-- `dec` in terms of the fields -/
theorem dec_spec (n s : Nat) :
    (decsOf n s ≥ n → dec n s = none) ∧
    (decsOf n s < n → ∃ wake, dec n s = some (s + 1, wake) ∧
        decsOf n (s + 1) = decsOf n s + 1 ∧ waitersOf n (s + 1) = waitersOf n s ∧
        (decsOf n s + 1 = n → wake = waitersOf n s) ∧ (decsOf n s + 1 < n → wake = 0)) := by
  constructor
  · intro h; simp [dec, h]
  · intro h
    have hf := dec_step_fields n s h
    refine ⟨_, by simp only [dec]; rw [if_neg (by omega)], hf.2, hf.1, ?_, ?_⟩
    · intro h1; rw [if_pos (by omega)]
    · intro h1; rw [if_neg (by omega)]

/-- **`n = 0`**: width 0, mask 0, every state reads "all 0 decrements seen" (a wait returns at once),
    and a decrement is always "excess" -/
theorem n0_case : calcBits 0 = 0 ∧ mask 0 = 0 ∧ (∀ s, decsOf 0 s = 0) ∧ (∀ s, waitAnnounce 0 s = none) ∧
    (∀ s, dec 0 s = none) := by
  have hb : calcBits 0 = 0 := calcBits_examples.1
  have hm : mask 0 = 0 := by simp [mask, hb]
  have hd : ∀ s, decsOf 0 s = 0 := by intro s; simp [decsOf, hm]
  exact ⟨hb, hm, hd, by intro s; simp [waitAnnounce, hd], by intro s; simp [dec, hd]⟩

/-! ### which (n, waiters) fit the 64-bit word -/

theorem calcBits_le_62 (n : Nat) (h : n < 2 ^ 62) : calcBits n ≤ 62 := calcBits_minimal n 62 h

/-- **representability is exactly "no word of the counter's life reaches 2^63"** (for `n < 2^62`,
    the range in which `calc_bits` itself does not shift into the sign bit) -/
theorem representable_iff (n w : Nat) (hn : n < 2 ^ 62) :
    Representable n w ↔ ∀ d, d ≤ n → pack (calcBits n) d w < 2 ^ 63 := by
  have hb := calcBits_le_62 n hn
  have hs := (calcBits_spec n).1
  have hsplit : 2 ^ 63 = 2 ^ (63 - calcBits n) * 2 ^ calcBits n := by
    rw [← Nat.pow_add]; congr 1; omega
  unfold Representable pack
  constructor
  · rintro ⟨_, hw⟩ d hd
    have : (w + 1) * 2 ^ calcBits n ≤ 2 ^ (63 - calcBits n) * 2 ^ calcBits n := Nat.mul_le_mul_right _ hw
    rw [Nat.add_mul] at this
    omega
  · intro h
    refine ⟨hn, ?_⟩
    have h0 := h 0 (Nat.zero_le _)
    apply Classical.byContradiction
    intro hc
    have : 2 ^ (63 - calcBits n) * 2 ^ calcBits n ≤ w * 2 ^ calcBits n := Nat.mul_le_mul_right _ (by omega)
    omega

/-- a representable word and everything the code derives from it fit 63 bits -/
theorem representable_bounds (n w d : Nat) (h : Representable n w) (hd : d ≤ n) :
    calcBits n ≤ 62 ∧ 2 ^ calcBits n ≤ 2 ^ 62 ∧ mask n < 2 ^ 62 ∧ pack (calcBits n) d w < 2 ^ 63 := by
  have hb := calcBits_le_62 n h.1
  have hp : 2 ^ calcBits n ≤ 2 ^ 62 := Nat.pow_le_pow_right (by omega) hb
  have hpos := pow_pos' (calcBits n)
  exact ⟨hb, hp, by unfold mask; omega, (representable_iff n w h.1).mp h d hd⟩

/-! ### BitVec 64: the machine computes the same -/

/-- `1L << b` -/
theorem bv64_one_shl (b : Nat) (hb : b ≤ 62) : ((1#64) <<< b).toNat = 2 ^ b := by
  rw [BitVec.toNat_shiftLeft]
  simp only [BitVec.toNat_ofNat, Nat.shiftLeft_eq]
  have : 2 ^ b ≤ 2 ^ 62 := Nat.pow_le_pow_right (by omega) hb
  omega

/-- **BitVec 64 corollary**: for a representable `(n, w)` and `d ≤ n`, with
    `s = BitVec.ofNat 64 (pack b d w)` and `m = (1 <<< b) - 1`:
    `s &&& m` is `d`, `s >>> b` is `w`, the word is non-negative as a signed `long`,
    `s + (1 <<< b)` has fields `(d, w + 1)` when `(n, w + 1)` is still representable,
    `s + 1` has fields `(d + 1, w)` when `d < n`; `n &&& m = n`. -/
theorem bv64_fields (n w d : Nat) (h : Representable n w) (hd : d ≤ n) :
    let b := calcBits n
    let s : BitVec 64 := BitVec.ofNat 64 (pack b d w)
    let m : BitVec 64 := ((1#64) <<< b) - 1#64
    m.toNat = mask n ∧
    (s &&& m).toNat = d ∧ (s >>> b).toNat = w ∧ s.msb = false ∧
    (BitVec.ofNat 64 n &&& m).toNat = n ∧
    (Representable n (w + 1) → ((s + ((1#64) <<< b)) &&& m).toNat = d ∧ ((s + ((1#64) <<< b)) >>> b).toNat = w + 1) ∧
    (d < n → ((s + 1#64) &&& m).toNat = d + 1 ∧ ((s + 1#64) >>> b).toNat = w) := by
  intro b s m
  obtain ⟨hb, hp, hmk, hpk⟩ := representable_bounds n w d h hd
  have hspec := (calcBits_spec n).1
  have hdlt : d < 2 ^ calcBits n := by omega
  have hpos := pow_pos' (calcBits n)
  have hs : s.toNat = pack (calcBits n) d w := by
    simp only [s, b, BitVec.toNat_ofNat]; omega
  have hm : m.toNat = mask n := by
    simp only [m, b, BitVec.toNat_sub, bv64_one_shl _ hb, BitVec.toNat_ofNat, mask]; omega
  have hup := unpack_pack n d w hdlt
  rw [decsOf, waitersOf] at hup
  refine ⟨hm, ?_, ?_, ?_, ?_, ?_, ?_⟩
  · rw [BitVec.toNat_and, hs, hm]; exact hup.1
  · rw [BitVec.toNat_ushiftRight, hs]; exact hup.2
  · rw [BitVec.msb_eq_decide]; simp only [hs]; simp; omega
  · rw [BitVec.toNat_and, hm, BitVec.toNat_ofNat, Nat.mod_eq_of_lt (by omega)]; exact (mask_identity n).1
  · intro h'
    have hpk' := (representable_bounds n (w + 1) d h' hd).2.2.2
    have hadd : (s + ((1#64) <<< b)).toNat = pack (calcBits n) d (w + 1) := by
      rw [BitVec.toNat_add, hs, bv64_one_shl _ hb]
      have : pack (calcBits n) d w + 2 ^ calcBits n = pack (calcBits n) d (w + 1) := by
        unfold pack; rw [Nat.add_mul]; omega
      rw [this]; omega
    have hup' := unpack_pack n d (w + 1) hdlt
    rw [decsOf, waitersOf] at hup'
    constructor
    · rw [BitVec.toNat_and, hadd, hm]; exact hup'.1
    · rw [BitVec.toNat_ushiftRight, hadd]; exact hup'.2
  · intro hdn
    have hdlt' : d + 1 < 2 ^ calcBits n := by omega
    have hadd : (s + 1#64).toNat = pack (calcBits n) (d + 1) w := by
      rw [BitVec.toNat_add, hs]
      simp only [BitVec.toNat_ofNat]
      have : pack (calcBits n) d w + 1 = pack (calcBits n) (d + 1) w := by unfold pack; omega
      have h2 := (representable_bounds n w (d + 1) h (by omega)).2.2.2
      omega
    have hup' := unpack_pack n (d + 1) w hdlt'
    rw [decsOf, waitersOf] at hup'
    constructor
    · rw [BitVec.toNat_and, hadd, hm]; exact hup'.1
    · rw [BitVec.toNat_ushiftRight, hadd]; exact hup'.2

/-- the guard is sharp: one waiter more than representable makes the word reach the sign bit -/
theorem not_representable_overflows (n : Nat) (hn : n < 2 ^ 62) :
    2 ^ 63 ≤ pack (calcBits n) 0 (2 ^ (63 - calcBits n)) := by
  have hb := calcBits_le_62 n hn
  unfold pack
  rw [← Nat.pow_add, show 63 - calcBits n + calcBits n = 63 by omega]; omega

/-- non-vacuity of the guard on both sides -/
example : Representable 5 1000 ∧ ¬ Representable (2 ^ 62) 0 ∧ Representable 0 (2 ^ 63 - 1) ∧
    ¬ Representable 0 (2 ^ 63) := by
  simp [Representable, calcBits, calcBitsFrom]

end MythVerif.JcArith
