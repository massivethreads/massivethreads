import MythVerif.Proofs.PiDagPruneMap
/-! Step 2 of `dr_pi_dag_copy_and_prune_nodes` (`pruneCopy`): the kept slots are copied in order to
consecutive positions, their offsets are rewritten through the index map and their strings
re-interned; the totals a slot carries are copied unchanged, in particular those of the root. -/
namespace MythVerif.PiDag
open MythVerif.DagRec

/-- the body of the loop of step 2 -/
def pruneCopyStep (T : Array PNode) (S : List Nat) (map : Array Int) (acc : Array PNode × List Nat) (i : Nat) :
    Array PNode × List Nat :=
  let (T_, st) := acc
  if map[i]! < (0 : Int) then acc else
  let src := T[i]!
  let mi := map[i]!.toNat
  let (st1, si) := intern st (S[src.info.c.start.pos.file]!)
  let (st2, ei) := intern st1 (S[src.info.c.end_.pos.file]!)
  let c := src.info.c
  let info : Info := { src.info with c := { c with
      start := { c.start with pos := { c.start.pos with file := si } },
      end_ := { c.end_ with pos := { c.end_.pos with file := ei } } } }
  let to : PNode := { src with info := info }
  let to : PNode :=
    if c.kind == .createTask then { to with a := (map[i + src.a]!).toNat - mi }
    else if isGroupK c.kind then
      let cb := i + src.a
      let ce := i + src.b
      if cb < ce then
        if map[cb]! ≥ (0 : Int) then { to with a := (map[cb]!).toNat - mi, b := (map[ce - 1]!).toNat - mi + 1 }
        else { to with a := 0, b := 0 }
      else to
    else to
  (T_.push to, st2)

theorem pruneCopy_eq (T : Array PNode) (S : List Nat) (map : Array Int) :
    pruneCopy T S map = (List.range T.size).foldl (pruneCopyStep T S map) (#[], []) := rfl

/-- the contraction-independent totals of a slot -/
def SameTotals (x y : PNode) : Prop :=
  x.info.c.t1 = y.info.c.t1 ∧ x.info.c.tinf = y.info.c.tinf ∧ x.info.c.nc = y.info.c.nc ∧
  x.info.c.ec = y.info.c.ec ∧ x.info.c.est = y.info.c.est ∧ x.info.c.kind = y.info.c.kind ∧
  x.info.c.worker = y.info.c.worker ∧ x.info.c.start.t = y.info.c.start.t ∧ x.info.c.end_.t = y.info.c.end_.t ∧
  x.info.cur = y.info.cur ∧ x.info.min = y.info.min

/-- the offsets the copy of slot `i` gets -/
def newAB (T : Array PNode) (map : Array Int) (i : Nat) : Nat × Nat :=
  let src := T[i]!
  let mi := map[i]!.toNat
  if src.info.c.kind == .createTask then ((map[i + src.a]!).toNat - mi, src.b)
  else if isGroupK src.info.c.kind then
    let cb := i + src.a
    let ce := i + src.b
    if cb < ce then
      if map[cb]! ≥ (0 : Int) then ((map[cb]!).toNat - mi, (map[ce - 1]!).toNat - mi + 1)
      else (0, 0)
    else (src.a, src.b)
  else (src.a, src.b)

theorem pruneCopyStep_spec (T : Array PNode) (S : List Nat) (map : Array Int) (T_ : Array PNode) (st : List Nat)
    (i : Nat) (hs : StrOK T_ st) :
    (map[i]! < (0 : Int) → pruneCopyStep T S map (T_, st) i = (T_, st)) ∧
    (¬ map[i]! < (0 : Int) → ∃ x st', pruneCopyStep T S map (T_, st) i = (T_.push x, st') ∧
      x.info.c.kind = T[i]!.info.c.kind ∧ x.a = (newAB T map i).1 ∧ x.b = (newAB T map i).2 ∧ SameTotals x T[i]! ∧
      StrOK (T_.push x) st') := by
  constructor
  · intro h; simp only [pruneCopyStep, h, if_true]
  · intro h
    simp only [pruneCopyStep, h, if_false]
    refine ⟨_, _, rfl, ?_, ?_, ?_, ?_, ?_⟩
    · repeat' split
      all_goals rfl
    · unfold newAB
      simp only
      repeat' split
      all_goals first | rfl | (exfalso; omega)
    · unfold newAB
      simp only
      repeat' split
      all_goals first | rfl | (exfalso; omega)
    · unfold SameTotals
      repeat' split
      all_goals simp
    · obtain ⟨c1, c2, c3, c4⟩ := intern_two st (S[T[i]!.info.c.start.pos.file]!) (S[T[i]!.info.c.end_.pos.file]!) hs.1
      apply strOK_push' _ st _ _ hs c1 c2
      · repeat' split
        all_goals exact c3
      · repeat' split
        all_goals exact c4

structure CInv (T : Array PNode) (map : Array Int) (k : Nat) (T_ : Array PNode) (st : List Nat) : Prop where
  sz : T_.size = cntK map k
  get : ∀ j, j < k → (0 : Int) ≤ map[j]! →
    T_[cntK map j]!.info.c.kind = T[j]!.info.c.kind ∧ T_[cntK map j]!.a = (newAB T map j).1 ∧
      T_[cntK map j]!.b = (newAB T map j).2 ∧ SameTotals T_[cntK map j]! T[j]!
  str : StrOK T_ st

theorem cntK_lt (map : Array Int) (j k : Nat) (hjk : j < k) (hj : (0 : Int) ≤ map[j]!) : cntK map j < cntK map k := by
  have h1 := cntK_succ map j
  rw [if_pos hj] at h1
  have h2 : cntK map (j + 1) ≤ cntK map k := rsum_mono _ _ _ (by omega)
  omega

theorem cinv_step (T : Array PNode) (S : List Nat) (map : Array Int) (k : Nat) (T_ : Array PNode) (st : List Nat)
    (h : CInv T map k T_ st) :
    CInv T map (k + 1) (pruneCopyStep T S map (T_, st) k).1 (pruneCopyStep T S map (T_, st) k).2 := by
  obtain ⟨s1, s2⟩ := pruneCopyStep_spec T S map T_ st k h.str
  by_cases hk : map[k]! < (0 : Int)
  · rw [s1 hk]
    have hnk : ¬ (0 : Int) ≤ map[k]! := by omega
    refine ⟨by rw [cntK_succ, if_neg hnk]; exact h.sz, fun j hj hj0 => ?_, h.str⟩
    by_cases hjk : j = k
    · subst hjk; exact absurd hj0 hnk
    · exact h.get j (by omega) hj0
  · obtain ⟨x, st', e, x1, x2, x3, x5, x4⟩ := s2 hk
    rw [e]
    have hk0 : (0 : Int) ≤ map[k]! := by omega
    refine ⟨by rw [cntK_succ, if_pos hk0, Array.size_push, h.sz], fun j hj hj0 => ?_, x4⟩
    simp only
    by_cases hjk : j = k
    · subst hjk
      rw [← h.sz, push_get_eq]
      exact ⟨x1, x2, x3, x5⟩
    · have hlt := cntK_lt map j k (by omega) hj0
      rw [push_get_lt _ _ _ (by rw [h.sz]; exact hlt)]
      exact h.get j (by omega) hj0

theorem pruneCopy_final (T : Array PNode) (S : List Nat) (map : Array Int) :
    CInv T map T.size (pruneCopy T S map).1 (pruneCopy T S map).2 := by
  rw [pruneCopy_eq]
  exact foldl_range_inv (fun k acc => CInv T map k acc.1 acc.2) (pruneCopyStep T S map) (#[], [])
    ⟨by simp [cntK, rsum], fun j hj => by omega, ⟨List.nodup_nil, fun j hj => by simp at hj⟩⟩
    T.size (fun k a _ h => cinv_step T S map k a.1 a.2 h)

/-- **the root slot of the shrunk DAG carries the totals of the original root**, for every node array
    whose child relation is a tree -/
theorem shrink_root (o : ShrinkOpts) (G : PiDag) (ht : TreeLike G.T) : SameTotals (shrink o G).T[0]! G.T[0]! := by
  have h0 := ((pruneCopy_final G.T G.S (pruneMap o G.T).1).get 0 ht.pos (pruneMap_final o G.T ht).root).2.2.2
  have hinfo := (setEdgePtrs_spec (pruneCopy G.T G.S (pruneMap o G.T).1).1
    (sortEdges (enumEdges (pruneCopy G.T G.S (pruneMap o G.T).1).1))).2 0
  unfold SameTotals at h0 ⊢
  unfold shrink finishDag
  simp only
  rw [hinfo]
  exact h0

end MythVerif.PiDag
