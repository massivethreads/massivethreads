import MythVerif.Proofs.WsQueueMoves
/-! Every step of a participant other than the owner preserves the invariant of the SC machine. -/
namespace MythVerif.Wsq

/-- the linearization point of a successful take: the lock holder claims the head of `A` -/
theorem Inv.thief_claim {s : St} {p : Pid} {pc pc' : TPc} {x : Elem} {A' : List Elem} (h : Inv s)
    (hpc : s.tpc p = pc) (hlk : thiefLocked pc = true) (htr : transient pc = true)
    (hA : s.A = x :: A')
    (hl' : thiefLocked pc' = true) (htr' : transient pc' = false) (hf' : thiefFlight pc' = true)
    (hp : s.ptr s.lb = some x → s.lb < s.size →
      ThiefAt { s with A := A', lb := s.lb + 1, tr := false, flT := some x } pc') :
    Inv { s with tpc := upd s.tpc p pc', A := A', lb := s.lb + 1, tr := false, flT := some x } := by
  have hlock := (h.lockT p).2 (hpc ▸ hlk)
  have hlen := h.len; have hlts := h.lts
  have h0 : s.ptr s.lb = some x := by simpa [hA] using h.cont 0 (by simp [hA])
  rw [hA, List.length_cons] at hlen
  refine h.thief_locked_step (hpc ▸ hlk) rfl rfl rfl rfl rfl (fun _ => rfl)
    (fun _ _ => show s.lb + 1 ≤ s.top by omega) ?_ (hp h0 (by omega))
  have hcont := h.cont
  cases ((inv_iff s).1 h).1
  constructor
  case cont =>
    intro k (hk : k < A'.length)
    have h1 := hcont (k + 1) (by rw [hA]; exact Nat.succ_lt_succ hk)
    rw [hA, List.getElem?_cons_succ] at h1
    rw [← h1]
    show s.ptr (s.lb + 1 + k) = s.ptr (s.lb + (k + 1 : Nat))
    congr 1; omega
  all_goals first | assumption | grind [upd_apply]

/-- trypass writes the slot below `base`: outside the window, and not the slot the owner is about
    to fill or read -/
theorem Inv.thief_store {s : St} {p : Pid} {e : Elem} {b : Int} (h : Inv s) (hpc : s.tpc p = .tp2 e b)
    (hb : s.lb = b ∧ 0 < b) :
    Inv { s with ptr := upd s.ptr (b - 1) (some e), tpc := upd s.tpc p (.tp3 e b) } := by
  have hl : thiefLocked (s.tpc p) = true := by rw [hpc]; rfl
  have hlock := (h.lockT p).2 hl
  have hv := h.locked_view hl; have := h.len
  have hlt := h.ltop (unlocked_sync (((inv_iff s).1 h).1.owner_unlocked hlock)).1
  refine h.thief_locked_step hl rfl rfl rfl rfl rfl
    (fun hm => upd_other _ _ _ _ (by rw [hm] at hlt; simp at hlt; omega)) (fun h _ => h) ?_
    ⟨hb.1, hb.2, upd_same _ _ _⟩
  cases ((inv_iff s).1 h).1
  glob_step [upd_apply, thiefLocked, transient, thiefFlight]

/-- the window grows by one slot at the base side -/
theorem cont_cons {A : List Elem} {ptr : Int → Option Elem} {lb : Int} {e : Elem}
    (hc : ∀ k : Nat, k < A.length → ptr (lb + k) = A[k]?) (he : ptr (lb - 1) = some e) :
    ∀ k : Nat, k < (e :: A).length → ptr (lb - 1 + k) = (e :: A)[k]? := by
  intro k hk
  cases k with
  | zero => simpa using he
  | succ k =>
    rw [List.getElem?_cons_succ, ← hc k (by simpa using hk)]
    congr 1; omega

/-- the linearization point of trypass -/
theorem Inv.thief_insert {s : St} {p : Pid} {e : Elem} {b : Int} (h : Inv s) (hpc : s.tpc p = .tp3 e b)
    (hb : s.lb = b ∧ 0 < b ∧ s.ptr (b - 1) = some e) :
    Inv { s with base := s.base - 1, tpc := upd s.tpc p (.tp4 true), A := e :: s.A, lb := s.lb - 1,
                 ins := e :: s.ins } := by
  have hl : thiefLocked (s.tpc p) = true := by rw [hpc]; rfl
  have hlock := (h.lockT p).2 hl
  have hv := h.locked_view hl
  refine h.thief_locked_step hl rfl rfl rfl rfl rfl (fun _ => rfl)
    (fun h _ => show s.lb - 1 ≤ s.top by omega) ?_ trivial
  have hcont := cont_cons h.cont (hb.1 ▸ hb.2.2)
  cases ((inv_iff s).1 h).1
  constructor
  case cont => exact hcont
  all_goals first | assumption | grind [upd_apply, thiefLocked, transient, thiefFlight]

theorem stepT_inv (s s' : St) (p : Pid) (h : Inv s) (hs : stepT s p = some s') : Inv s' := by
  cases hpc : s.tpc p <;> simp only [stepT, hpc] at hs
  case idle | wkd => cases hs
  -- lock (a failed attempt leaves the state alone or gives up) and unlock
  case tkl | wtl | tpl | vl =>
    split at hs <;> cases hs
    all_goals first
    | exact h.thief_acquire ‹_› rfl rfl trivial
    | exact h
    | exact h.thief_move hpc rfl rfl rfl trivial
  case tk4 r => cases hs; exact (h.thief_release (pc' := .idle) hpc rfl rfl rfl rfl trivial).ghost _ _ _
  case wk4u r => cases hs; exact (h.thief_release (pc' := .idle) hpc rfl rfl rfl rfl trivial).ghost _ _ _
  case tk6 | wk6 | tp4 | vu =>
    cases hs
    exact h.thief_release hpc rfl rfl rfl (h.flT_none hpc rfl rfl) trivial
  -- the transient increment of `base` and its withdrawal
  case tk1 | wk1 | vk1 => cases hs; exact h.thief_bump hpc rfl rfl rfl rfl rfl id
  case tk5 b => cases hs; exact h.thief_rollback hpc rfl rfl rfl (h.tk5 p b hpc) rfl rfl trivial
  case wk5 b => cases hs; exact h.thief_rollback hpc rfl rfl rfl (h.wk5 p b hpc) rfl rfl trivial
  case vk5 b => cases hs; exact h.thief_rollback hpc rfl rfl rfl (h.vk5 p b hpc) rfl rfl trivial
  -- moves whose new program counter has a clause
  case tk3 b x =>
    cases hs; obtain ⟨_, h2, h3, _⟩ := h.tk3 p b x hpc
    exact h.thief_move hpc rfl rfl rfl (h2.trans h3.symm)
  case wk2 b =>
    have hv := h.locked_view (p := p) (by rw [hpc]; rfl)
    have := h.wk2 p b hpc
    split at hs <;> cases hs
    · exact h.thief_move hpc rfl rfl rfl ⟨this, by omega⟩
    · exact h.thief_move hpc rfl rfl rfl this
  case vk2 b =>
    have hv := h.locked_view (p := p) (by rw [hpc]; rfl)
    have := h.vk2 p b hpc
    split at hs <;> cases hs
    · exact h.thief_move hpc rfl rfl rfl ⟨this, by omega⟩
    · exact h.thief_move hpc rfl rfl rfl this
  case wk3 b => cases hs; obtain ⟨h1, h2⟩ := h.wk3 p b hpc; exact h.thief_move hpc rfl rfl rfl ⟨h1, h2, rfl⟩
  case vk3 b => cases hs; exact h.thief_move hpc rfl rfl rfl (h.vk3 p b hpc).1
  case vk4 b r => cases hs; exact (h.thief_move (pc' := .vk5 b) hpc rfl rfl rfl (h.vk4 p b r hpc)).ghost _ _ _
  case wk4 r => cases hs; exact (h.thief_move (pc' := .wk4u r) hpc rfl rfl rfl (h.wk4 p r hpc)).ghost _ _ _
  case tp1 e =>
    have hv := h.locked_view (p := p) (by rw [hpc]; rfl)
    simp [hpc, transient] at hv
    split at hs <;> cases hs
    · exact h.thief_move hpc rfl rfl rfl trivial
    · exact h.thief_move hpc rfl rfl rfl ⟨by omega, by omega⟩
  case pk1 => cases hs; exact h.thief_move hpc rfl rfl rfl h.base0
  case pk2 b =>
    have := h.pk2 p b hpc; have := h.tops
    split at hs <;> cases hs
    · exact h.thief_move hpc rfl rfl rfl ⟨by omega, by omega⟩
    · exact h.thief_move hpc rfl rfl rfl trivial
  -- take: the linearization point, or the roll-back is announced
  case tk2 b =>
    have hb := h.tk2 p b hpc
    split at hs
    · split at hs <;> cases hs
      exact h.thief_claim hpc rfl rfl ‹_› rfl rfl rfl fun h0 hsz =>
        ⟨by rw [hb], hb ▸ h0, rfl, hb ▸ h.lb0, hb ▸ hsz⟩
    · cases hs; exact h.thief_move hpc rfl rfl rfl hb
  -- trypass: the slot below `base` is written, then `base` moves down (linearization point)
  case tp2 e b => cases hs; exact h.thief_store hpc (h.tp2 p e b hpc)
  case tp3 e b => cases hs; exact h.thief_insert hpc (h.tp3 p e b hpc)
  -- every other step only moves `p` between program counters of one class that carry no clause
  all_goals first
    | (cases hs; exact h.thief_move hpc rfl rfl rfl trivial)
    | (split at hs <;> cases hs <;> exact h.thief_move hpc rfl rfl rfl trivial)

theorem stepD_inv (s s' : St) (p : Pid) (a : Bool) (h : Inv s) (hs : stepD s p a = some s') : Inv s' := by
  simp only [stepD] at hs
  split at hs
  · rename_i b r hpc
    obtain ⟨hb, _, hr⟩ := h.wkd p b r hpc
    split at hs
    · split at hs <;> cases hs
      exact h.thief_claim hpc rfl rfl ‹_› rfl rfl rfl fun h0 _ => hr.trans (hb ▸ h0)
    · cases hs; exact h.thief_move hpc rfl rfl rfl hb
  · cases hs

end MythVerif.Wsq
