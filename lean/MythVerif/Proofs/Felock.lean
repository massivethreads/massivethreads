import MythVerif.Model.Felock
/-! Inductive invariant of the full/empty lock; its preservation is `inv_step` in
`Properties/C09.lean`. -/
namespace MythVerif.Felock

structure Inv (s : St) : Prop where
  hd    : ∀ t, holds (s.pc t) = true ↔ s.holder = some t
  cwA   : ∀ w t, t ∈ s.cw w → s.pc t = .slp w
  cwS   : ∀ w t, s.pc t = .slp w → t ∈ s.cw w
  cwN   : ∀ w, (s.cw w).Nodup
  w2    : ∀ t w, (s.pc t = .wl w ∨ s.pc t = .chk w ∨ s.pc t = .tw w ∨ s.pc t = .slp w ∨ s.pc t = .got w) → w < 2
  st2   : s.status < 2
  -- mailbox / status relation, decided by what the holder is doing
  free  : s.holder = none → (s.slot.isSome = true ↔ s.status = 1)
  hneut : ∀ t w, (s.pc t = .chk w ∨ s.pc t = .tw w ∨ s.pc t = .hp ∨ s.pc t = .ms2 ∨ (∃ v, s.pc t = .ms1 v)) →
            (s.slot.isSome = true ↔ s.status = 1)
  hgot  : ∀ t w, s.pc t = .got w → (s.status = w ∧ (s.slot.isSome = true ↔ w = 1))
  hput  : ∀ t, s.pc t = .pPut → (s.status = 0 ∧ s.slot.isSome = true)
  htook : ∀ t, s.pc t = .cTook → (s.status = 1 ∧ s.slot = none)
  ms1v  : ∀ t v, s.pc t = .ms1 v → s.status = v
  twv   : ∀ t w, s.pc t = .tw w → s.status ≠ w
  -- exactly once
  items : s.produced = (match s.slot with | some x => [x] | none => []) ++ s.consumed
  -- no lost signal: if the status is w and threads sleep on cond[w], somebody is on the way
  hope  : ∀ w, s.cw w ≠ [] → s.status = w → ∃ t, s.pc t = .wl w ∨ act w (s.pc t) = true
  -- operation counters
  cntP  : s.donePut = s.produced.length
  cntT  : s.doneTake = s.consumed.length

theorem inv_init : Inv init := by
  constructor <;> simp [init, holds, act]

end MythVerif.Felock
