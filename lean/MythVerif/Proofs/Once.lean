import MythVerif.Model.Once
/-! Inductive invariant of the once model and its preservation. -/
namespace MythVerif.Once

theorem zero_is_init : sInit = 0 := by decide
theorem ne_ip : sInit ≠ sProg := by decide
theorem ne_id : sInit ≠ sDone := by decide
theorem ne_pd : sProg ≠ sDone := by decide

structure Inv (s : St) : Prop where
  dom   : s.state = sInit ∨ s.state = sProg ∨ s.state = sDone
  ex0   : s.state = sInit ↔ s.execs = 0
  ex1   : s.execs ≤ 1
  run0  : s.execs = 0 ↔ s.runner = none
  own   : ∀ t, inRoutine (s.pc t) = true ↔ (s.runner = some t ∧ s.state = sProg)
  rdnN  : s.runner = none → s.routineDone = false
  rdn   : ∀ t, s.runner = some t → (s.routineDone = true ↔ (s.state = sDone ∨ s.pc t = .fin))
  ret   : s.returns > 0 → s.state = sDone
  wt    : ∀ t, waiting (s.pc t) = true → s.state ≠ sInit

theorem inv_init : Inv init := by
  constructor <;> simp [init, inRoutine, waiting, zero_is_init]

theorem inv_step (s s' : St) (l : Lbl) (h : Inv s) (hs : step s l = some s') : Inv s' := by
  have hne1 := ne_ip; have hne2 := ne_id; have hne3 := ne_pd
  cases l with
  | read t v | cas t ok | routineStep t | routineEnd t | storeDone t | waitRead t v | yield t =>
    simp only [step] at hs; (repeat' split at hs) <;> cases hs <;> try exact h
    all_goals
      have dom := h.dom; have ex0 := h.ex0; have ex1 := h.ex1; have run0 := h.run0
      have hown := h.own t; have hwt := h.wt t
      -- a clause not named carries over as it is: the step writes nothing it reads; the `have`s hand `grind` the
      -- old clauses that the named ones follow from
      exact { h with
      dom := by grind
      ex0 := by grind [inRoutine]
      ex1 := by grind
      run0 := by grind
      own := by have := h.own; simp only [upd_apply]; grind [inRoutine]
      rdnN := by have := h.rdnN; grind [inRoutine]
      rdn := by have := h.rdn; have := h.rdnN; simp only [upd_apply]; grind [inRoutine]
      ret := by have := h.ret; grind [inRoutine]
      wt := by have := h.wt; simp only [upd_apply]; grind [waiting] }

theorem reachable_inv (s : St) (h : Reachable step init s) : Inv s :=
  inv_reachable step init Inv inv_init (fun s l s' => inv_step s s' l) s h

/-- once the word has left `init` the routine has been started exactly once -/
theorem Inv.started {s : St} (hi : Inv s) (hn : s.state ≠ sInit) : s.execs = 1 := by
  have : s.execs ≠ 0 := fun e => hn (hi.ex0.mpr e)
  have := hi.ex1; omega

/-- `completed` is stored only after the routine has ended -/
theorem Inv.ended {s : St} (hi : Inv s) (hd : s.state = sDone) : s.routineDone = true := by
  cases hrun : s.runner with
  | none => exact absurd ((hi.ex0.mpr (hi.run0.mpr hrun)).symm.trans hd) ne_id
  | some w => exact (hi.rdn w hrun).mpr (Or.inl hd)

/-- a word that has left `init` is `completed` with the routine ended, or `in_progress` with the
    runner inside the routine -/
theorem Inv.hope {s : St} (hi : Inv s) (hn : s.state ≠ sInit) :
    (s.state = sDone ∧ s.routineDone = true) ∨
    (s.state = sProg ∧ ∃ w, s.runner = some w ∧ inRoutine (s.pc w) = true) := by
  rcases hi.dom with h0 | h1 | h2
  · exact absurd h0 hn
  · cases hrun : s.runner with
    | none => exact absurd (hi.ex0.mpr (hi.run0.mpr hrun)) hn
    | some w => exact .inr ⟨h1, w, rfl, (hi.own w).mpr ⟨hrun, h1⟩⟩
  · exact .inl ⟨h2, hi.ended h2⟩

/-! ### link between the ghost counters and the label sequence that was executed -/

/-- the label starts the init routine (a successful CAS) -/
def isWin : Lbl → Bool
  | .cas _ true => true
  | _ => false

/-- the label makes its actor return from `myth_once` -/
def isRet : Lbl → Bool
  | .storeDone _ => true
  | .waitRead _ v => decide (v = sDone)
  | _ => false

/-- the init routine returns -/
def isEnd : Lbl → Bool
  | .routineEnd _ => true
  | _ => false

structure TrInv (ls : List Lbl) (s : St) : Prop where
  execs : s.execs = ls.countP isWin
  rets  : s.returns = ls.countP isRet
  done  : s.routineDone = ls.any isEnd

theorem trinv_step (ls : List Lbl) (s : St) (l : Lbl) (s' : St) (h : TrInv ls s)
    (hs : step s l = some s') : TrInv (ls ++ [l]) s' := by
  obtain ⟨h1, h2, h3⟩ := h
  -- one script for every label: unfold the step, split its (at most two) guards, drop the branches that are
  -- `none` and put the new state in for `s'`
  cases l <;> simp only [step] at hs <;> (first | (split at hs) | skip) <;>
    (first | (split at hs) | skip) <;> (try simp at hs) <;> (try subst hs) <;>
    (constructor <;> simp_all [List.countP_append, isWin, isRet, isEnd])

theorem trinv (ls : List Lbl) (s : St) (h : runs step init ls = some s) : TrInv ls s := by
  have := runs_trace_ind step TrInv trinv_step ls [] init s
    (by constructor <;> simp [init]) h
  simpa using this

/-- in an executed label sequence at most one CAS out of `init` succeeds; if a call has returned,
    exactly one did and the routine has returned -/
theorem wins_of_runs (ls : List Lbl) (s : St) (h : runs step init ls = some s) :
    ls.countP isWin ≤ 1 ∧ (ls.any isRet = true → ls.countP isWin = 1 ∧ ls.any isEnd = true) := by
  have ht := trinv ls s h
  have hi := reachable_inv s ⟨ls, h⟩
  rw [← ht.execs, ← ht.done]
  refine ⟨hi.ex1, fun ha => ?_⟩
  have hd := hi.ret (by rw [ht.rets]; exact List.countP_pos_iff.mpr (by simpa using ha))
  exact ⟨hi.started (fun e => ne_id (e.symm.trans hd)), hi.ended hd⟩

end MythVerif.Once
