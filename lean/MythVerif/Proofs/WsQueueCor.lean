import MythVerif.Proofs.WsQueueAcct
import MythVerif.Proofs.WsQueueProgress
/-! Corollaries of the SC invariant used by the property theorems of C02. -/
namespace MythVerif.Wsq

theorem count_eq_one_of_nodup (l : List Elem) (e : Elem) (hd : l.Nodup) (he : e ∈ l) : l.count e = 1 := by
  induction l with
  | nil => simp at he
  | cons a t ih =>
    rw [List.nodup_cons] at hd
    by_cases hae : a = e
    · subst hae
      have : t.count a = 0 := List.count_eq_zero.2 hd.1
      simp [this]
    · have : e ∈ t := by
        rcases List.mem_cons.1 he with h | h
        · exact absurd h.symm hae
        · exact h
      simp [hae, ih hd.2 this]

theorem no_loss_no_dup (n : Int) (hn : 0 ≤ n) (s : St) (h : Reachable step (init n) s) (hd : s.ins.Nodup) :
    s.retd.Nodup ∧ (s.A ++ (s.flT.toList ++ (s.flO.toList ++ s.retd))).Perm s.ins := by
  obtain ⟨_, ha⟩ := reachable_inv_acct n hn s h
  refine ⟨?_, ha⟩
  have := ha.nodup_iff.2 hd
  unfold acctList at this
  have h1 := (List.nodup_append.1 this).2.1
  have h2 := (List.nodup_append.1 h1).2.1
  exact (List.nodup_append.1 h2).2.1

theorem exactly_once (n : Int) (hn : 0 ≤ n) (s : St) (h : Reachable step (init n) s) (hd : s.ins.Nodup)
    (e : Elem) (he : e ∈ s.ins) :
    s.A.count e + s.flT.toList.count e + s.flO.toList.count e + s.retd.count e = 1 := by
  obtain ⟨_, ha⟩ := reachable_inv_acct n hn s h
  have h1 : (acctList s).count e = s.ins.count e := ha.count_eq e
  have h2 : s.ins.count e = 1 := count_eq_one_of_nodup _ _ hd he
  unfold acctList at h1
  simp only [List.count_append] at h1
  omega

/-- in a quiescent state (nobody inside an operation) nothing is in flight -/
theorem quiescent_no_flight (s : St) (h : Inv s) (ho : s.opc = .idle) (ht : ∀ p, s.tpc p = .idle) :
    s.flO = none ∧ s.flT = none ∧ s.lock = .free ∧ s.base = s.lb ∧ s.top = s.lt := by
  have h1 : s.flO = none := h.flOn (by simp [ho, ownerFlight])
  have h2 : s.flT = none := by
    false_or_by_contra
    rename_i hne
    obtain ⟨q, _, hf⟩ := h.flTn hne
    rw [ht q] at hf; simp [thiefFlight] at hf
  have h3 : s.tr = false := by
    cases htr : s.tr with
    | false => rfl
    | true =>
      obtain ⟨q, hq⟩ := h.trn htr
      have := (h.lockT q).1 hq
      rw [ht q] at this; simp [thiefLocked] at this
  have h4 : s.lock = .free := by
    cases hl : s.lock with
    | free => rfl
    | owner => have := h.lockO.1 hl; rw [ho] at this; simp [ownerLocked] at this
    | thief q => have := (h.lockT q).1 hl; rw [ht q] at this; simp [thiefLocked] at this
  have h5 := h.lbase (by simp [ho, baseSync])
  have h6 := h.ltop (by simp [ho, topSync])
  simp [h3] at h5
  simp [ho, midPop] at h6
  exact ⟨h1, h2, h4, h5, h6.symm⟩

/-- the overflow guard of push fires exactly on a full queue -/
theorem pub_abort_iff (s : St) (h : Inv s) (e : Elem) (hpc : s.opc = .pub e) :
    s.base = 0 ↔ (s.A.length : Int) = s.size := by
  have hv := h.owner_view hpc rfl rfl; simp [midPop, ownerLocked] at hv
  have := h.pub e hpc; have := h.len
  omega

/-- the overflow guard of put fires exactly on a full queue -/
theorem pt2_abort_iff (s : St) (h : Inv s) (e : Elem) (hpc : s.opc = .pt2 e) :
    s.top = s.size ↔ (s.A.length : Int) = s.size := by
  have hv := h.owner_view hpc rfl rfl; simp [midPop, ownerLocked] at hv
  have := h.pt2 e hpc; have := h.len
  omega

/-- clear's assertion fails exactly on a non-empty queue -/
theorem cl1_assert_iff (s : St) (h : Inv s) (hpc : s.opc = .cl1) : s.top = s.base ↔ s.A = [] := by
  have hv := h.owner_view hpc rfl rfl; simp [midPop, ownerLocked] at hv
  have := h.len
  rw [← List.length_eq_zero_iff]
  omega

/-- slot index touched by the owner's next step -/
def slotO (s : St) : Option Int :=
  match s.opc with
  | .pu1 _ t => some t | .po3 t _ => some t | .po5 t _ => some t | .po5b t _ => some t
  | .pt7 _ b => some (b - 1)
  | _ => none

/-- slot index touched by participant `p`'s next step -/
def slotT (s : St) (p : Pid) : Option Int :=
  match s.tpc p with
  | .tk3 b _ => some b | .wk3 b => some b | .tp2 _ b => some (b - 1) | .pk3 b => some b | .vk3 b => some b
  | _ => none

theorem slotO_in_bounds (s : St) (h : Inv s) (i : Int) (hi : slotO s = some i) : 0 ≤ i ∧ i < s.size := by
  unfold slotO at hi
  have e4 := h.len
  have e5 := h.lb0
  have e6 := h.lts
  split at hi <;> simp at hi <;> subst hi
  · rename_i e t hpc; have := h.pu1 e t hpc; omega
  · rename_i t x hpc; have := h.po3 t x hpc; omega
  · rename_i t x hpc; have := h.po5 t x hpc; omega
  · rename_i t r hpc; have := h.po5b t r hpc; omega
  · rename_i e b hpc
    have := h.pt7 e b hpc
    have hv := h.owner_view hpc rfl rfl; simp [midPop, ownerLocked] at hv
    omega

theorem slotT_in_bounds (s : St) (h : Inv s) (p : Pid) (i : Int) (hi : slotT s p = some i) :
    0 ≤ i ∧ i < s.size := by
  unfold slotT at hi
  have e4 := h.len
  have e5 := h.lb0
  have e6 := h.lts
  split at hi <;> simp at hi <;> subst hi
  · rename_i b x hpc; have := h.tk3 p b x hpc; omega
  · rename_i b hpc; have := h.wk3 p b hpc; omega
  · rename_i e b hpc; have := h.tp2 p e b hpc; omega
  · rename_i b hpc; have := h.pk3 p b hpc; omega
  · rename_i b hpc; have := h.vk3 p b hpc; omega

/-- both `memmove`s stay inside the storage -/
theorem memmove_in_bounds (s : St) (h : Inv s) :
    (∀ e off, s.opc = .pum e off → 0 ≤ s.base + off ∧ s.top + off ≤ s.size ∧ 0 ≤ s.base ∧ s.top ≤ s.size) ∧
    (∀ e off, s.opc = .pt3 e off → 0 ≤ s.base + off ∧ s.top + off ≤ s.size ∧ 0 ≤ s.base ∧ s.top ≤ s.size) := by
  have b0 := h.base0
  have ts := h.tops
  constructor
  · intro e off hpc; have := h.pum e off hpc; omega
  · intro e off hpc; have := h.pt3 e off hpc; omega

/-- while the owner reads slot `t` without the lock, no other participant's pending slot access
    (claiming read of take / wsapi take / wsapi peek, or the store of a pass) is at index `t` -/
theorem fast_path_disjoint (s : St) (h : Inv s) (t : Int) (x : Elem) (hpc : s.opc = .po3 t x) :
    s.ptr t = some x ∧ s.flO = some x ∧ ∀ p i, slotT s p = some i → (∀ b, s.tpc p ≠ .pk3 b) → i < t := by
  have e0 := h.po3 t x hpc
  have e1 := h.ltop (by simp [hpc, topSync])
  simp [hpc, midPop] at e1
  refine ⟨e0.2.1, e0.2.2.2.1, ?_⟩
  intro p i hi hnk
  unfold slotT at hi
  split at hi <;> simp at hi <;> subst hi
  · rename_i b y hq; have := h.tk3 p b y hq; omega
  · rename_i b hq; have := h.wk3 p b hq; omega
  · rename_i e b hq; have := h.tp2 p e b hq; omega
  · rename_i b hq; exact absurd hq (hnk b)
  · rename_i b hq; have := h.vk3 p b hq; omega

/-- a declined steal: the callback saw the head of the deque, and after the roll-back the queue is
    exactly as before -/
theorem decline_spec (s : St) (h : Inv s) (p : Pid) (b : Int) (r : Option Elem) (hpc : s.tpc p = .wkd b r) :
    r = s.A.head? ∧ s.A ≠ [] ∧
    ∃ s1 s2 s3, step s (.tDecide p false) = some s1 ∧ step s1 (.t p) = some s2 ∧ step s2 (.t p) = some s3 ∧
      s3.A = s.A ∧ s3.retd = s.retd ∧ s3.ins = s.ins ∧ s3.ptr = s.ptr ∧ s3.top = s.top ∧
      s3.base = s3.lb ∧ s3.lb = s.lb ∧ s3.lock = .free ∧ s3.tpc p = .idle := by
  have e := h.wkd p b r hpc
  have e4 := h.len
  have hne : s.A ≠ [] := by
    intro hA; rw [hA] at e4; simp at e4; omega
  have hc := h.cont 0 (by cases hA : s.A with | nil => exact absurd hA hne | cons a t => simp)
  refine ⟨?_, hne, ?_⟩
  · rw [e.2.2, ← e.1, List.head?_eq_getElem?, ← hc]; simp
  · let s1 : St := { s with tpc := upd s.tpc p (.wk5 b) }
    let s2 : St := { s1 with base := b, tr := false, tpc := upd s1.tpc p .wk6 }
    let s3 : St := { s2 with lock := .free, tpc := upd s2.tpc p .idle }
    refine ⟨s1, s2, s3, ?_, ?_, ?_, ?_⟩
    · simp [step, stepD, hpc, s1]
    · simp [step, stepT, s1, s2]
    · simp [step, stepT, s2, s3]
    · simp [s1, s2, s3, e.1]
end MythVerif.Wsq
