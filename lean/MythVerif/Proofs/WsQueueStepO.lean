import MythVerif.Proofs.WsQueueMoves
/-! Every step of the owner preserves the invariant of the SC machine. -/
namespace MythVerif.Wsq

/-- what the owner knows outside the re-centring code -/
theorem Inv.owner_view {s : St} {pc : OPc} (h : Inv s) (hpc : s.opc = pc) (ht : topSync pc = true)
    (hb : baseSync pc = true) :
    0 ≤ s.lb ∧ s.lb ≤ s.lt ∧ s.lt ≤ s.size ∧ 0 ≤ s.base ∧ s.top ≤ s.size ∧
    s.top ≤ s.lt ∧ (midPop pc = false → s.lt = s.top) ∧ (midPop pc = true → s.lt = s.top + 1) ∧
    s.lb ≤ s.base ∧ s.base ≤ s.lb + 1 ∧ (ownerLocked pc = true → s.base = s.lb) := by
  subst hpc
  have := h.len; have := h.ltop ht; have := h.lbase hb
  have := fun hl => ((inv_iff s).1 h).1.tr_false (h.lockO.2 hl)
  refine ⟨h.lb0, by omega, h.lts, h.base0, h.tops, ?_, ?_, ?_, ?_, ?_, ?_⟩ <;> grind

/-- the slot below `lt` holds the last element of the window -/
theorem Inv.last_slot {s : St} {x : Elem} (h : Inv s) (hx : s.A.getLast? = some x) :
    s.ptr (s.lt - 1) = some x ∧ s.lb < s.lt := by
  have hlen := h.len
  have hpos : 0 < s.A.length := by
    cases hA : s.A with
    | nil => simp [hA] at hx
    | cons a l => simp
  have := h.cont (s.A.length - 1) (by omega)
  rw [List.getLast?_eq_getElem?] at hx
  rw [hx] at this
  refine ⟨?_, by omega⟩
  rw [← this]; congr 1; omega

/-- a step of the owner inside a locked section: every other participant is outside theirs, so only
    `Glob` and the owner's new clause are left to show -/
theorem Inv.owner_store {s s' : St} (h : Inv s) (hl : ownerLocked s.opc = true) (hsz : s'.size = s.size)
    (htpc : s'.tpc = s.tpc) (hg : Glob s') (ho : OwnerAt s' s'.opc) : Inv s' := by
  obtain ⟨g, _, ht⟩ := (inv_iff s).1 h
  refine (inv_iff _).2 ⟨hg, ho, fun q => ?_⟩
  rw [htpc]
  exact (ht q).of_unlocked (g.thieves_unlocked (g.lockO.2 hl) q) hsz

theorem stepO_inv (s s' : St) (h : Inv s) (hs : stepO s = some s') : Inv s' := by
  cases hpc : s.opc <;> simp only [stepO, hpc] at hs
  case idle | aborted | assertFail => cases hs
  -- lock (a failed attempt changes nothing)
  case pul e =>
    split at hs <;> cases hs
    · exact h.owner_acquire hpc ‹_› rfl rfl rfl rfl rfl (h.pul e hpc)
    · exact h
  case pol t =>
    split at hs <;> cases hs
    · exact h.owner_acquire hpc ‹_› rfl rfl rfl rfl rfl (h.pol t hpc)
    · exact h
  case ptl | cll =>
    split at hs <;> cases hs
    · exact h.owner_acquire hpc ‹_› rfl rfl rfl rfl rfl trivial
    · exact h
  -- unlock
  case pux e t =>
    cases hs; have := h.pux e t hpc; have hv := h.owner_view hpc rfl rfl; simp [midPop, ownerLocked] at hv
    exact h.owner_release hpc rfl rfl rfl rfl rfl rfl (h.flOn (by rw [hpc]; rfl)) ⟨by omega, by omega, by omega⟩
  case po6 r => cases hs; exact (h.owner_release (pc' := .idle) hpc rfl rfl rfl rfl rfl rfl rfl trivial).ghost _ _ _
  case po9 | pt9 | cl3 =>
    cases hs; exact h.owner_release hpc rfl rfl rfl rfl rfl rfl (h.flOn (by rw [hpc]; rfl)) trivial
  -- tests that only choose the next program counter
  case pu0 e =>
    have hv := h.owner_view hpc rfl rfl; simp [midPop, ownerLocked] at hv
    split at hs <;> cases hs
    · exact h.owner_move hpc rfl rfl rfl rfl rfl ‹_›
    · exact h.owner_move hpc rfl rfl rfl rfl rfl ⟨rfl, by omega, by omega⟩
  case pub e =>
    have hv := h.owner_view hpc rfl rfl; simp [midPop, ownerLocked] at hv; have := h.pub e hpc
    split at hs <;> cases hs
    · exact h.owner_move hpc rfl rfl rfl rfl rfl trivial
    · exact h.owner_move hpc rfl rfl rfl rfl rfl ⟨this, rcOff_bounds _ (by omega)⟩
  case pq =>
    have hv := h.owner_view hpc rfl rfl; simp [midPop, ownerLocked] at hv
    split at hs <;> cases hs
    · exact h.owner_move hpc rfl rfl rfl rfl rfl trivial
    · exact h.owner_move hpc rfl rfl rfl rfl rfl (show 1 ≤ s.top by omega)
  case po5 t x =>
    cases hs; obtain ⟨h1, h2, h3, h4⟩ := h.po5 t x hpc
    exact h.owner_move hpc rfl rfl rfl rfl rfl ⟨h1, h2.trans h3.symm, h4⟩
  case po5c t r =>
    have := (h.po5c t r hpc).2
    split at hs <;> cases hs <;> exact h.owner_move hpc rfl rfl rfl rfl rfl this
  case po5d r => cases hs; exact (h.owner_move (pc' := .po6 r) hpc rfl rfl rfl rfl rfl (h.po5d r hpc)).ghost _ _ _
  case pt1 e =>
    have hv := h.owner_view hpc rfl rfl; simp [midPop, ownerLocked] at hv
    split at hs <;> cases hs
    · exact h.owner_move hpc rfl rfl rfl rfl rfl ‹_›
    · exact h.owner_move hpc rfl rfl rfl rfl rfl ⟨rfl, by omega⟩
  case pt2 e =>
    have hv := h.owner_view hpc rfl rfl; simp [midPop, ownerLocked] at hv; have := h.pt2 e hpc
    split at hs <;> cases hs
    · exact h.owner_move hpc rfl rfl rfl rfl rfl trivial
    · exact h.owner_move hpc rfl rfl rfl rfl rfl ⟨this, by omega, by omega⟩
  case cl1 =>
    have hv := h.owner_view hpc rfl rfl; simp [midPop, ownerLocked] at hv
    split at hs <;> cases hs
    · obtain ⟨g, _, _⟩ := (inv_iff s).1 h
      have hA : s.A = [] := List.eq_nil_of_length_eq_zero (by have := g.len; omega)
      refine h.owner_store (by rw [hpc]; rfl) rfl rfl ?_ ⟨rfl, rfl⟩
      glob_owner g hpc []
    · exact h.owner_move hpc rfl rfl rfl rfl rfl trivial
  -- stores inside a locked section
  case pum e off | pus e off | puv e off | po5b t r | po7 | po8 | pt3 e off | pt4 e off | pt5 e off | pt7 e b
      | pt8 e b | cl2 =>
    cases hs
    obtain ⟨g, ho, _⟩ := (inv_iff s).1 h
    have htr := g.tr_false (g.lockO.2 (by rw [hpc]; rfl))
    rw [hpc] at ho; simp only [OwnerAt] at ho
    refine h.owner_store (by rw [hpc]; rfl) rfl rfl ?_ ?_
    · glob_owner g hpc [shiftPtr_apply, upd_apply]
    · -- the clause of the next program counter: arithmetic on the old clause `ho` and the window facts
      have hv := And.intro g.ltop <| And.intro g.lbase <| And.intro g.tops <| And.intro g.base0 <|
        And.intro g.lb0 <| And.intro g.lts g.len
      simp only [hpc, OwnerAt, midPop, topSync, baseSync] at hv ⊢ <;> grind [upd_apply]
  -- stores outside the locked sections: a thief may be inside its own
  case pu1 e t | pu2 e t | po1 | po3 t x =>
    cases hs
    obtain ⟨g, ho, ht⟩ := (inv_iff s).1 h
    have hv := h.owner_view hpc rfl rfl; simp [midPop, ownerLocked] at hv
    rw [hpc] at ho; simp only [OwnerAt] at ho
    refine (inv_iff _).2 ⟨?_, ?_, fun q => (ht q).frame rfl rfl rfl ?_ ?_ ?_⟩
    · glob_owner g hpc [upd_apply]
    · simp only [OwnerAt] <;> grind [upd_apply]
    all_goals (intros; grind [upd_apply])
  -- pop: the linearization point of the fast path (`base + 1 < top`, whatever `base` was read) and of the
  -- slow path (under the lock), or the branch away from it
  case po2 t =>
    have hv := h.owner_view hpc rfl rfl; simp [midPop, ownerLocked] at hv; have ho := h.po2 t hpc
    split at hs
    · split at hs <;> cases hs
      rename_i x hx
      obtain ⟨hlast, _⟩ := h.last_slot hx
      obtain ⟨g, _, ht⟩ := (inv_iff s).1 h
      refine (inv_iff _).2 ⟨?_, ?_, fun q => (ht q).frame rfl rfl rfl (fun _ => rfl) rfl ?_⟩
      · glob_owner g hpc [List.length_dropLast]
      · simp only [OwnerAt]; grind
      · intro; show s.lb < s.lt - 1; omega
    · cases hs; exact h.owner_move hpc rfl rfl rfl rfl rfl ho
  case po4 t =>
    have hv := h.owner_view hpc rfl rfl; simp [midPop, ownerLocked] at hv; have ho := h.po4 t hpc
    split at hs
    · split at hs <;> cases hs
      rename_i x hx
      obtain ⟨hlast, _⟩ := h.last_slot hx
      obtain ⟨g, _, _⟩ := (inv_iff s).1 h
      refine h.owner_store (by rw [hpc]; rfl) rfl rfl ?_ ?_
      · glob_owner g hpc [List.length_dropLast]
      · simp only [OwnerAt]; grind
    · cases hs
      refine h.owner_move hpc rfl rfl rfl rfl rfl (show s.lt = s.lb from ?_)
      omega

end MythVerif.Wsq
