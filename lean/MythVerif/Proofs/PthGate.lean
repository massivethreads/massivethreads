import MythVerif.Model.PthGate
import MythVerif.Proofs.PthProg
/-!
Determinacy of the fork-join + lock-protected-commutative + monotone-gate fragment
(`MythVerif.PthGate.GProg`): every step of the abstract interface preserves `gval`,
`counters + gdelta` and `gates + gposts` (an `await` changes nothing), so every complete execution
ends in `geval p`; gates never decrease; `gsize` decreases with every step, so there is no
divergence; and a configuration without a step is either finished or `Blocked` — a deadlock.
-/
namespace MythVerif.PthGate
open MythVerif.PthProg (Store Store.bump)

theorem step_preserves (x y : Cfg) (h : Step x y) :
    gval y.1 = gval x.1 ∧ (∀ i, y.2.1 i + gdelta y.1 i = x.2.1 i + gdelta x.1 i) ∧
      (∀ i, y.2.2 i + gposts y.1 i = x.2.2 i + gposts x.1 i) := by
  induction h with
  | add c k σ γ =>
    refine ⟨rfl, fun i => ?_, fun i => rfl⟩
    simp only [gdelta, Store.bump]
    split <;> omega
  | post g n σ γ =>
    refine ⟨rfl, fun i => rfl, fun i => ?_⟩
    simp only [gposts, Gates.bump]
    split <;> omega
  | await _ _ _ _ _ | seqDone _ _ _ _ | fork _ _ _ _ | join _ _ _ _ =>
    exact ⟨by simp [gval], fun i => by simp [gdelta], fun i => by simp [gposts]⟩
  -- the moving component's share of each sum changes, the other's stays
  | seqL _ _ _ _ _ _ _ _ ih | seqR _ _ _ _ _ _ _ _ ih | parL _ _ _ _ _ _ _ _ ih | parR _ _ _ _ _ _ _ _ ih =>
    obtain ⟨h1, h2, h3⟩ := ih
    refine ⟨by simp only [gval, h1], fun i => ?_, fun i => ?_⟩
    · have := h2 i
      simp only [gdelta] at *
      omega
    · have := h3 i
      simp only [gposts] at *
      omega

theorem steps_preserve (x y : Cfg) (h : Steps x y) :
    gval y.1 = gval x.1 ∧ (∀ i, y.2.1 i + gdelta y.1 i = x.2.1 i + gdelta x.1 i) ∧
      (∀ i, y.2.2 i + gposts y.1 i = x.2.2 i + gposts x.1 i) := by
  induction h with
  | refl x => exact ⟨rfl, fun _ => rfl, fun _ => rfl⟩
  | cons x y z hxy _ ih =>
    have h1 := step_preserves x y hxy
    exact ⟨ih.1.trans h1.1, fun i => (ih.2.1 i).trans (h1.2.1 i), fun i => (ih.2.2 i).trans (h1.2.2 i)⟩

/-- a gate never decreases in a step -/
theorem step_gates_mono (x y : Cfg) (h : Step x y) : ∀ g, x.2.2 g ≤ y.2.2 g := by
  induction h with
  | post g n σ γ =>
    intro i
    simp only [Gates.bump]
    split <;> omega
  | seqL _ _ _ _ _ _ _ _ ih => exact ih
  | seqR _ _ _ _ _ _ _ _ ih => exact ih
  | parL _ _ _ _ _ _ _ _ ih => exact ih
  | parR _ _ _ _ _ _ _ _ ih => exact ih
  | _ => intro i; exact Nat.le_refl _

theorem steps_gates_mono (x y : Cfg) (h : Steps x y) : ∀ g, x.2.2 g ≤ y.2.2 g := by
  induction h with
  | refl x => intro g; exact Nat.le_refl _
  | cons x y z hxy _ ih =>
    intro g
    exact Nat.le_trans (step_gates_mono x y hxy g) (ih g)

theorem step_size (x y : Cfg) (h : Step x y) : gsize y.1 < gsize x.1 := by
  induction h <;> simp [gsize] at * <;> omega

theorem steps_length (x y : Cfg) (h : Steps x y) : gsize y.1 ≤ gsize x.1 := by
  induction h with
  | refl x => exact Nat.le_refl _
  | cons x y z hxy _ ih => have := step_size x y hxy; omega

theorem steps_trans (x y z : Cfg) (h1 : Steps x y) (h2 : Steps y z) : Steps x z := by
  induction h1 with
  | refl x => exact h2
  | cons a b c hab _ ih => exact Steps.cons a b z hab (ih h2)

theorem no_infinite_run (f : Nat → Cfg) (h : ∀ n, Step (f n) (f (n + 1))) : False :=
  PthProg.no_infinite_descent Step (gsize ·.1) step_size f h

/-- a term is finished, or blocked (every remaining thread at an `await` below its threshold), or
    it can move -/
theorem progress (p : GProg) (σ : Store) (γ : Gates) :
    (∃ v, p = .ret v) ∨ Blocked γ p ∨ ∃ y, Step (p, σ, γ) y := by
  induction p with
  | ret v => exact Or.inl ⟨v, rfl⟩
  | add c k => exact Or.inr (Or.inr ⟨_, Step.add c k σ γ⟩)
  | post g n => exact Or.inr (Or.inr ⟨_, Step.post g n σ γ⟩)
  | await g n =>
    by_cases hg : n ≤ γ g
    · exact Or.inr (Or.inr ⟨_, Step.await g n σ γ hg⟩)
    · exact Or.inr (Or.inl (Blocked.await g n (by omega)))
  | seq a b iha ihb =>
    right
    rcases iha with ⟨v, rfl⟩ | ha | ⟨⟨a', σ', γ'⟩, h⟩
    · rcases ihb with ⟨w, rfl⟩ | hb | ⟨⟨b', σ', γ'⟩, h⟩
      · exact Or.inr ⟨_, Step.seqDone v w σ γ⟩
      · exact Or.inl (Blocked.seqR v b hb)
      · exact Or.inr ⟨_, Step.seqR v b b' σ γ σ' γ' h⟩
    · exact Or.inl (Blocked.seqL a b ha)
    · exact Or.inr ⟨_, Step.seqL a a' b σ γ σ' γ' h⟩
  | fork c b _ _ => exact Or.inr (Or.inr ⟨_, Step.fork c b σ γ⟩)
  | par c b ihc ihb =>
    right
    rcases ihc with ⟨v, rfl⟩ | hc | ⟨⟨c', σ', γ'⟩, h⟩
    · rcases ihb with ⟨w, rfl⟩ | hb | ⟨⟨b', σ', γ'⟩, h⟩
      · exact Or.inr ⟨_, Step.join v w σ γ⟩
      · exact Or.inl (Blocked.parR v b hb)
      · exact Or.inr ⟨_, Step.parR _ b b' σ γ σ' γ' h⟩
    · rcases ihb with ⟨w, rfl⟩ | hb | ⟨⟨b', σ', γ'⟩, h⟩
      · exact Or.inl (Blocked.parL c w hc)
      · exact Or.inl (Blocked.parLR c b hc hb)
      · exact Or.inr ⟨_, Step.parR _ b b' σ γ σ' γ' h⟩
    · exact Or.inr ⟨_, Step.parL c c' b σ γ σ' γ' h⟩

theorem ret_no_step (v : Int) (σ : Store) (γ : Gates) (y : Cfg) : ¬ Step (.ret v, σ, γ) y := by
  intro h; cases h

/-- conversely, a blocked term has no step (whatever the counters) -/
theorem blocked_no_step (γ : Gates) (p : GProg) (hb : Blocked γ p) (σ : Store) (y : Cfg) :
    ¬ Step (p, σ, γ) y := by
  induction hb generalizing y with
  | await g n hlt => intro h; cases h; omega
  | seqL a b hbl ih =>
    intro h
    cases h with
    | seqL _ _ _ _ _ _ _ h1 => exact ih _ h1
    | seqR | seqDone => cases hbl
  | seqR v b hbl ih =>
    intro h
    cases h with
    | seqL _ _ _ _ _ _ _ h1 => exact ret_no_step _ _ _ _ h1
    | seqR _ _ _ _ _ _ _ h1 => exact ih _ h1
    | seqDone => cases hbl
  | parLR c b hbc _ ihc ihb =>
    intro h
    cases h with
    | parL _ _ _ _ _ _ _ h1 => exact ihc _ h1
    | parR _ _ _ _ _ _ _ h1 => exact ihb _ h1
    | join => cases hbc
  | parL c w hbl ih =>
    intro h
    cases h with
    | parL _ _ _ _ _ _ _ h1 => exact ih _ h1
    | parR _ _ _ _ _ _ _ h1 => exact ret_no_step _ _ _ _ h1
    | join => cases hbl
  | parR v b hbl ih =>
    intro h
    cases h with
    | parL _ _ _ _ _ _ _ h1 => exact ret_no_step _ _ _ _ h1
    | parR _ _ _ _ _ _ _ h1 => exact ih _ h1
    | join => cases hbl

theorem blocked_not_ret (γ : Gates) (v : Int) : ¬ Blocked γ (.ret v) := by
  intro h; cases h

/-- a blocked term has at least one waiting thread and each of them waits for a gate that is below
    its threshold -/
theorem blocked_waits (γ : Gates) (p : GProg) (hb : Blocked γ p) :
    waits p ≠ [] ∧ ∀ gn ∈ waits p, γ gn.1 < gn.2 := by
  induction hb with
  | await g n hlt => simp [waits, hlt]
  | seqL a b hbl ih =>
    cases a with
    | ret v => cases hbl
    | _ => simp only [waits]; exact ih
  | seqR v b _ ih => simpa [waits] using ih
  | parLR c b _ _ ihc ihb =>
    refine ⟨by simp [waits, ihc.1], ?_⟩
    intro gn hgn
    simp only [waits, List.mem_append] at hgn
    rcases hgn with h | h
    · exact ihc.2 gn h
    · exact ihb.2 gn h
  | parL c w _ ih => simpa [waits] using ih
  | parR v b _ ih => simpa [waits] using ih

end MythVerif.PthGate
