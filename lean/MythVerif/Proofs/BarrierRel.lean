import MythVerif.Proofs.Barrier
/-! Barrier invariant: preservation by the labels of the last arriver's release and by returns. -/
namespace MythVerif.Barrier

theorem p_wakePush (P : List Tid) (s s' : St) (t x) :
    Inv P s → t ∈ P → step P.length s (.wakePush t x) = some s' → Inv P s' := by
  intro h hP hs
  simp only [step] at hs
  split at hs
  · rename_i y rem hpc
    split at hs <;> cases hs
    rename_i hxy; subst hxy
    have ht := h.at t
    rw [hpc] at ht
    obtain ⟨hl, hto, hta, hts, htw, hrst, hnl⟩ := h.ldr (by rw [hpc]; rfl)
    replace hrst := hrst (by simp [hpc])
    obtain ⟨hwk, _, hpush⟩ := ht.lpuA _ rfl
    rw [List.length_cons] at hpush
    have hrt := h.oldR t hto
    have hxw : x ∈ s.wk := by rw [hwk]; simp
    have htx : t ≠ x := fun e => htw (e ▸ hxw)
    have hxo := h.wkO x hxw
    have hxP := h.oldP x hxo
    have htr : t ∉ rem := fun hm => htw (by rw [hwk]; simp [hm])
    have hxs : x ∉ s.stack := fun hm => h.stW x hm hxw
    have hxa : x ∉ s.arrd := fun hm => by have := h.arrR x hm; have := h.oldR x hxo; omega
    have hnd := h.wkN
    rw [hwk] at hnd
    obtain ⟨hxr, hrn⟩ := List.nodup_cons.mp hnd
    have her : s.wk.erase x = rem := by rw [hwk]; simp
    refine Inv.of { h.glob with stW := ?_, wkO := ?_, wkN := ?_, wkL := ?_, popC := ?_, pshC := ?_,
                                retLt := ?_, retEq := ?_, retGe := ?_ }
      (at_upd ?_ fun u hut => ?_)
    all_goals try dsimp only
    all_goals try rw [her]
    · intro u hu hr; exact h.stW u hu (by rw [hwk]; simp [hr])
    · intro u hu; exact h.wkO u (by rw [hwk]; simp [hu])
    · exact hrn
    · intro e; rw [hl] at e; cases e
    · intro u hu
      by_cases e1 : u = t
      · subst e1; rw [upd_same] at hu; split at hu <;> cases hu
      · rw [upd_other _ _ _ _ e1] at hu
        by_cases e2 : u = x
        · subst e2; rw [upd_same] at hu; cases hu
        · rw [upd_other _ _ _ _ e2, popPc_le (hnl u e1)] at hu; cases hu
    · intro u hu p hp hpu
      have e1 : u = t := by
        apply Classical.byContradiction; intro e1
        rw [upd_other _ _ _ _ e1] at hu
        by_cases e2 : u = x
        · subst e2; simp at hu
        · rw [upd_other _ _ _ _ e2] at hu
          exact not_psh (hnl u e1) hu
      subst e1
      rw [upd_other _ _ _ _ hpu]
      by_cases e2 : p = x
      · subst e2; simp
      · rw [upd_other _ _ _ _ e2]
        have := h.pshC u (Or.inr ⟨_, hpc⟩) p hp hpu
        rw [hwk] at this; simpa [e2] using this
    · intro k hk; rw [upd_other _ _ _ _ (by omega)]; exact h.retLt k hk
    · intro k hk
      obtain ⟨a, b, _⟩ := h.retEq k hk
      exact ⟨a, b, fun e => by rw [hl] at e; cases e⟩
    · intro k hk; rw [upd_other _ _ _ _ (by omega)]; exact h.retGe k hk
    · by_cases hr : rem = []
      · subst hr
        constructor <;> simp [blkPc, prePc, ldrPc, popPc, *]
        simpa using hpush
      · rw [if_neg hr]
        constructor <;> simp [blkPc, prePc, ldrPc, popPc, *]
        omega
    · by_cases hux : u = x
      · subst hux; rw [upd_same]
        constructor <;> simp [blkPc, prePc, ldrPc, popPc, *]
      rw [upd_other _ _ _ _ hux]
      have hn := hnl u hut
      exact { h.at u with
        wkA := fun hm => (h.at u).wkA (by rw [hwk]; simp [hm])
        asl := fun e => by have := (h.at u).asl e; rw [hwk] at this; simpa [hux] using this
        popA := fun e => by rw [popPc_le hn] at e; cases e
        lrsA := fun e => by rw [e] at hn; cases hn
        lpoA := fun _ e => by rw [e] at hn; cases hn
        lpcA := fun _ _ _ e => by rw [e] at hn; cases hn
        lpuA := fun _ e => by rw [e] at hn; cases hn
        lreA := fun e => by rw [e] at hn; cases hn }
  · cases hs

/-- A return, with the serial counter `σ` and the releaser `l'` of the new state as parameters: `t` leaves
    `old` and enters its next round.  If that ends the release (`l' = none`), nothing is left to wake. -/
theorem Inv.ret {P : List Tid} {s : St} (h : Inv P s) {t : Tid} {σ : Nat → Nat} {l' : Option Tid} (hto : t ∈ s.old)
    (hb : blkPc (s.pc t) = false) (hta : t ∉ s.arrd) (hts : t ∉ s.stack) (htw : t ∉ s.wk) (hlt : l' ≠ some t)
    (hl : ∀ u, u ≠ t → (l' = some u ↔ s.ldr = some u)) (hσ : ∀ k, k ≠ s.rnd t → σ k = s.serial k)
    (hser : σ (s.rnd t) = if l' = none then 1 else 0)
    (hn : l' = none → s.rst = false ∧ s.wk = [] ∧ s.pushed (s.rnd t) + 1 = P.length ∧
      ∀ u, u ∈ s.old → u ≠ t → s.pc u = .woken) :
    Inv P { s with pc := upd s.pc t .idle, rnd := upd s.rnd t (s.rnd t + 1),
                   retd := upd s.retd (s.rnd t) (s.retd (s.rnd t) + 1), serial := σ,
                   old := s.old.erase t, ldr := l' } := by
  have mem_erase : ∀ u, u ∈ s.old.erase t ↔ u ≠ t ∧ u ∈ s.old := fun u => h.oldN.mem_erase_iff
  have hrt := h.oldR t hto
  have hlen : (s.old.erase t).length + 1 = s.old.length := by
    rw [List.length_erase_of_mem hto]; have := List.length_pos_of_mem hto; omega
  refine Inv.of { h.glob with arrR := ?_, oldP := fun u hu => h.oldP u ((mem_erase u).mp hu).2, oldR := ?_,
                              oldN := h.oldN.erase t, ldrO := ?_, rstN := fun e => (hn e).1, wkO := ?_,
                              wkL := fun e => (hn e).2.1, popC := ?_, pshC := ?_, retLt := ?_, retEq := ?_, retGe := ?_ }
    (at_upd ?_ fun u hut => ?_)
  all_goals try dsimp only
  · intro u hu; rw [upd_other _ _ _ _ (fun (e : u = t) => hta (e ▸ hu))]; exact h.arrR u hu
  · intro u hu; rw [upd_other _ _ _ _ ((mem_erase u).mp hu).1]; exact h.oldR u ((mem_erase u).mp hu).2
  · intro u e
    have hut : u ≠ t := fun e' => hlt (e' ▸ e)
    exact (mem_erase u).mpr ⟨hut, h.ldrO u ((hl u hut).mp e)⟩
  · intro u hu; exact (mem_erase u).mpr ⟨fun e' => htw (e' ▸ hu), h.wkO u hu⟩
  · intro u hu p hp hpu
    have hut : u ≠ t := fun e => by subst e; rw [upd_same] at hu; cases hu
    rw [upd_other _ _ _ _ hut] at hu
    rw [upd_other _ _ _ _ ((mem_erase p).mp hp).1]
    exact h.popC u hu p ((mem_erase p).mp hp).2 hpu
  · intro u hu p hp hpu
    have hut : u ≠ t := fun e => by subst e; simp at hu
    rw [upd_other _ _ _ _ hut] at hu
    rw [upd_other _ _ _ _ ((mem_erase p).mp hp).1]
    exact h.pshC u hu p ((mem_erase p).mp hp).2 hpu
  · intro k hk; rw [upd_other _ _ _ _ (by omega), hσ k (by omega)]; exact h.retLt k hk
  · intro k hk
    have hk' : k = s.rnd t := by omega
    subst hk'
    rw [upd_same, hser]
    exact ⟨by have := (h.retEq _ hk).1; omega, rfl, fun e => (hn e).2.2.1⟩
  · intro k hk; rw [upd_other _ _ _ _ (by omega), hσ k (by omega)]; exact h.retGe k hk
  · constructor <;> simp [blkPc, prePc, ldrPc, popPc, mem_erase, hta, hts, htw, hlt, hrt]
  · have a := h.at u
    have hnp : popPc (s.pc u) = false := by
      cases hp : popPc (s.pc u) with
      | false => rfl
      | true => have := h.popC u hp t hto (Ne.symm hut); rw [hb] at this; cases this
    exact { a with
      oldPc := fun hm => by rw [hl u hut]; exact a.oldPc ((mem_erase u).mp hm).2
      preC := fun hp ha ho => by
        dsimp only; rw [upd_other _ _ _ _ hut]; exact a.preC hp ha (fun hm => ho ((mem_erase u).mpr ⟨hut, hm⟩))
      wokO := fun e => (mem_erase u).mpr ⟨hut, a.wokO e⟩
      ldrI := by rw [hl u hut]; exact a.ldrI
      rstL := fun e => a.rstL ((hl u hut).mp e)
      popA := fun e => by rw [hnp] at e; cases e
      lpuA := fun r e => by dsimp only; rw [upd_other _ _ _ _ hut]; exact a.lpuA r e
      lreA := fun e => by dsimp only; rw [upd_other _ _ _ _ hut]; exact a.lreA e
      oldW := fun e hm => (hn e).2.2.2 u ((mem_erase u).mp hm).2 hut }

theorem p_ret (P : List Tid) (s s' : St) (t v) :
    Inv P s → t ∈ P → step P.length s (.ret t v) = some s' → Inv P s' := by
  intro h hP hs
  have ht := h.at t
  simp only [step] at hs
  split at hs
  · -- the last arriver returns: the release is over, everybody else in `old` is runnable
    cases hs
    rename_i hc
    rw [hc.1] at ht
    obtain ⟨hl, hto, hta, hts, htw, hrst, hnl⟩ := h.ldr (by rw [hc.1]; rfl)
    obtain ⟨hwk, hpush⟩ := ht.lreA rfl
    have hser := (h.retEq _ (h.oldR t hto)).2.1
    rw [hl] at hser
    refine h.ret hto (by rw [hc.1]; rfl) hta hts htw nofun (fun u hu => ?_) (fun k hk => upd_other _ _ _ _ hk) ?_
      fun _ => ⟨hrst (by simp [hc.1]), hwk, hpush, fun u hu hut => ?_⟩
    · rw [hl]; simp [Ne.symm hu]
    · rw [upd_same, hser]; rfl
    · have := h.pshC t (Or.inl hc.1) u hu hut; rw [hwk] at this; simpa using this
  · split at hs <;> cases hs
    -- a woken sleeper returns
    rename_i hc
    rw [hc.1] at ht
    exact h.ret (ht.wokO rfl) (by rw [hc.1]; rfl) (fun hm => nomatch ht.arrB hm) (fun hm => nomatch ht.stA hm)
      (fun hm => nomatch ht.wkA hm) (fun e => nomatch ht.ldrI.mpr e) (fun _ _ => Iff.rfl) (fun _ _ => rfl)
      (h.retEq _ (h.oldR t (ht.wokO rfl))).2.1
      fun e => ⟨h.rstN e, h.wkL e, (h.retEq _ (h.oldR t (ht.wokO rfl))).2.2 e, fun u hu _ => h.oldW e u hu⟩


theorem p_reset (P : List Tid) (s s' : St) (t) :
    Inv P s → t ∈ P → step P.length s (.reset t) = some s' → Inv P s' := by
  intro h hP hs
  simp only [step] at hs
  split at hs <;> cases hs
  rename_i hpc
  have ht := h.at t
  rw [hpc] at ht
  obtain ⟨harr, hlen, hpu⟩ := ht.popA rfl
  have hwk := ht.lrsA rfl
  obtain ⟨hl, hto, hta, hts, htw, _, hnl⟩ := h.ldr (by rw [hpc]; rfl)
  have hnP := h.nP
  refine Inv.of { h.glob with cnt := by simp [harr], rstN := fun _ => rfl, popC := ?_, pshC := ?_ }
    (at_upd ?_ fun u hu => { h.at u with rstL := ?_ })
  · exact popC_upd h.popC (fun _ => by rw [hpc]; rfl) (by simp [hpc, blkPc])
  · -- `N = 1`: nobody to wake
    intro u hu p hp hne
    dsimp only at hu hp
    have hut : u = t := by
      apply Classical.byContradiction; intro hut
      rw [upd_other _ _ _ _ hut] at hu
      exact not_psh (hnl u hut) hu
    subst hut
    rw [upd_same] at hu
    have hN : P.length ≤ 1 := by apply Classical.byContradiction; intro hN; simp [hN] at hu
    exact absurd (nodup_len1 h.oldN (by omega) hp hto) hne
  · by_cases hN : P.length ≤ 1 <;> simp only [hN, if_true, if_false] <;>
      constructor <;> simp [blkPc, prePc, ldrPc, popPc, *] <;> omega
  · intro hlu; rw [hl] at hlu; cases hlu; exact absurd rfl hu

end MythVerif.Barrier
