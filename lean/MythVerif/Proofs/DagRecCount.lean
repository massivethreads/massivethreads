import MythVerif.Proofs.DagRecTotals
/-! `cur_node_count` bookkeeping: after every contraction policy of the recorder (including the
budget walk `dr_prune_nodes_norec`) the counter of every node equals the number of nodes that are
materialised below it (`dr_check_cur_node_count` passes). -/
namespace MythVerif.DagRec

def DNode.isGroup : DNode → Bool
  | .group _ _ => true
  | _ => false

def DList.curSum : DList → Nat
  | .nil => 0
  | .cons d r => d.curBelow + r.curSum

mutual
/-- what `dr_check_cur_node_count` checks -/
def DNode.Consistent : DNode → Prop
  | .ival i => i.cur = 1
  | .create i ch => i.cur = 1 ∧ i.c.kind = .createTask ∧ ch.isGroup = true ∧ ch.Consistent
  | .group i ds => i.cur = 1 + ds.curSum ∧ ds.Consistent
def DList.Consistent : DList → Prop
  | .nil => True
  | .cons d r => d.Consistent ∧ r.Consistent
end

theorem curBelow_group {d : DNode} (h : d.isGroup = true) : d.curBelow = d.info.cur := by
  cases d <;> simp_all [DNode.isGroup, DNode.curBelow]

mutual
/-- the counter equals the number of materialised nodes -/
theorem DNode.count_eq : ∀ d : DNode, d.Consistent → d.count = d.curBelow
  | .ival i, h => by simp [DNode.Consistent] at h; simp [DNode.count, DNode.curBelow, DNode.info, h]
  | .create i ch, h => by
    simp only [DNode.Consistent] at h
    obtain ⟨h1, h2, h3, h4⟩ := h
    have := curBelow_group h3
    rw [DNode.count, DNode.count_eq ch h4, this]
    simp [DNode.curBelow, h2]
  | .group i ds, h => by
    simp only [DNode.Consistent] at h
    simp [DNode.count, DNode.curBelow, DNode.info, h.1, DList.count_eq ds h.2]
theorem DList.count_eq : ∀ ds : DList, ds.Consistent → ds.count = ds.curSum
  | .nil, _ => rfl
  | .cons d r, h => by
    simp only [DList.Consistent] at h
    simp [DList.count, DList.curSum, DNode.count_eq d h.1, DList.count_eq r h.2]
end

/-! #### accumulate computes `1 + Σ dr_cur_nodes_below(child)` -/

theorem views_sumCur : ∀ ds : DList, ds.Consistent → sumCur ds.views = ds.curSum
  | .nil, _ => rfl
  | .cons d r, h => by
    simp only [DList.Consistent] at h
    simp only [DList.views, sumCur, DList.curSum, views_sumCur r h.2]
    cases d with
    | ival i => simp [DNode.view, DNode.curBelow, DNode.info, View.cur]
    | group i ds => simp [DNode.view, DNode.curBelow, DNode.info, View.cur]
    | create i ch =>
      simp only [DNode.Consistent] at h
      simp [DNode.view, DNode.curBelow, View.cur, h.1.2.1, h.1.1]

/-! #### the budget walk keeps the counters exact -/

theorem pruneNode_isGroup (v : Variant) (d : DNode) (b : Int) (h : d.isGroup = true) :
    (pruneNode v d b).isGroup = true := by
  cases d with
  | ival i => simp [DNode.isGroup] at h
  | create i ch => simp [DNode.isGroup] at h
  | group i ds =>
    obtain ⟨j, ds', hp, _⟩ := pruneNode_group v i ds b
    rw [hp]; rfl

theorem collapse_consistent (v : Variant) (i : Info) : (collapse v i).Consistent := by
  simp [collapse, DNode.Consistent, DList.curSum, DList.Consistent]

mutual
theorem pruneNode_consistent (v : Variant) : ∀ (d : DNode) (b : Int), d.Consistent → (pruneNode v d b).Consistent
  | .ival i, b, h => by simpa [pruneNode] using h
  | .create i ch, b, h => by
    simp only [DNode.Consistent] at h
    simp only [pruneNode, DNode.Consistent]
    exact ⟨h.1, h.2.1, pruneNode_isGroup v ch _ h.2.2.1, pruneNode_consistent v ch _ h.2.2.2⟩
  | .group i ds, b, h => by
    rcases pruneNode_group_cases v i ds b with e | e | e <;> rw [e]
    · exact h
    · exact collapse_consistent v i
    · simp only [DNode.Consistent] at h ⊢
      obtain ⟨h1, h2⟩ := pruneList_consistent v ds (b - 1) ((i.cur : Int) - 1) h.2
      exact ⟨by omega, h1⟩
theorem pruneList_consistent (v : Variant) : ∀ (ds : DList) (bl nl : Int), ds.Consistent →
    (pruneList v ds bl nl).1.Consistent ∧ (pruneList v ds bl nl).2 = bl - ((pruneList v ds bl nl).1.curSum : Int)
  | .nil, bl, nl, _ => by simp [pruneList, DList.Consistent, DList.curSum]
  | .cons d r, bl, nl, h => by
    simp only [DList.Consistent] at h
    have h1 := pruneNode_consistent v d (Int.tdiv (bl * (d.curBelow : Int)) nl) h.1
    have h2 := pruneList_consistent v r
      (bl - ((pruneNode v d (Int.tdiv (bl * (d.curBelow : Int)) nl)).curBelow : Int)) (nl - (d.curBelow : Int)) h.2
    simp only [pruneList, DList.Consistent, DList.curSum]
    refine ⟨⟨h1, h2.1⟩, ?_⟩
    rw [h2.2]
    omega
end

theorem summarize_consistent (v : Variant) (o : Opts) (i : Info) (ds : DList)
    (h : (DNode.group i ds).Consistent) : (summarize v o i ds).Consistent := by
  rcases summarize_cases v o i ds with e | e | e <;> rw [e]
  · exact h
  · exact collapse_consistent v i
  · exact pruneNode_consistent v _ _ h

theorem summarize_isGroup (v : Variant) (o : Opts) (i : Info) (ds : DList) :
    (summarize v o i ds).isGroup = true := by
  obtain ⟨j, ds', hp, _⟩ := admissible_summarize v o i ds
  rw [hp]; rfl

mutual
theorem recTree_consistent (v : Variant) (o : Opts) : ∀ (t : Tree) (c : Cursor), WnAny t →
    (recTree v (summarize v o) t c).1.Consistent
  | .ival k r, c, _ => by simp [recTree, DNode.Consistent, endInterval]
  | .create r child, c, h => by
    have hw := wnAny_create h
    have ih := recTree_consistent v o child (cursorAfter (endInterval .createTask r c) .create) (wnAny_of_task hw)
    obtain ⟨f, rfl, _⟩ := wnTask_group hw
    rw [rec_create, rec_group] at *
    exact ⟨rfl, rfl, summarize_isGroup v o _ _, ih⟩
  | .group k f, c, h => by
    obtain ⟨b, hb⟩ := wnAny_group h
    obtain ⟨ih, hne⟩ := recForest_consistent v o f c b hb
    rw [rec_group]
    apply summarize_consistent
    simp only [DNode.Consistent]
    exact ⟨by rw [(accumulate_closed v k _ hne).2.2.2, views_sumCur _ ih], ih⟩
theorem recForest_consistent (v : Variant) (o : Opts) : ∀ (f : Forest) (c : Cursor) (b : Bool), wnForest b f = true →
    (recForest v (summarize v o) f c).1.Consistent ∧ (recForest v (summarize v o) f c).1.views ≠ []
  | .nil, c, b, h => by simp [wnForest] at h
  | .cons t .nil, c, b, h => by
    simp only [wnForest] at h
    simp only [rec_cons, rec_nil, DList.Consistent, DList.views]
    exact ⟨⟨recTree_consistent v o t c (wnAny_of_last h), trivial⟩, by simp⟩
  | .cons t (.cons t' rest), c, b, h => by
    simp only [wnForest, Bool.and_eq_true] at h
    have ih2 := recForest_consistent v o (.cons t' rest) (recTree v (summarize v o) t c).2 b h.2
    rw [rec_cons]
    simp only [DList.Consistent, DList.views]
    exact ⟨⟨recTree_consistent v o t c (wnAny_of_item h.1), ih2.1⟩, by simp⟩
end

end MythVerif.DagRec
