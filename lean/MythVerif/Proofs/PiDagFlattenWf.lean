import MythVerif.Proofs.PiDagSlots
/-! A laid-out node array passes the `offsets` check of the well-formedness checker;
`dr_pi_dag_set_edge_ptrs` keeps the layout, so the node array of every `flatten` is laid out. -/
namespace MythVerif.PiDag
open MythVerif.DagRec

/-! ### the cover counters -/

/-- one step of the fold of `wfOffsets` -/
def coverStep (T : Array PNode) (c : Array Nat) (i : Nat) : Array Nat :=
  let x := T[i]!
  if x.info.c.kind == .createTask then c.modify (i + x.a) (· + 1)
  else if isGroupK x.info.c.kind then (List.range (x.b - x.a)).foldl (fun c k => c.modify (i + x.a + k) (· + 1)) c
  else c

def coverArr (T : Array PNode) : Array Nat :=
  (List.range T.size).foldl (coverStep T) (Array.replicate T.size 0)

/-- the local part of `wfOffsets` -/
def offLocal (T : Array PNode) (i : Nat) : Bool :=
  let x := T[i]!
  if x.info.c.kind == .createTask then 0 < x.a && i + x.a < T.size && T[i + x.a]!.info.c.kind == .task
  else if isGroupK x.info.c.kind then x.a == x.b || (0 < x.a && x.a < x.b && i + x.b ≤ T.size)
  else true

theorem wfOffsets_eq (G : PiDag) :
    wfOffsets G = (decide (G.T.size > 0) &&
      (List.range G.T.size).all (fun i => offLocal G.T i && (coverArr G.T)[i]! == (if i = 0 then 0 else 1))) := rfl

/-- is `j` a child slot of `i` -/
def ind (T : Array PNode) (i j : Nat) : Nat :=
  let x := T[i]!
  if x.info.c.kind == .createTask then (if i + x.a = j then 1 else 0)
  else if isGroupK x.info.c.kind then (if i + x.a ≤ j ∧ j < i + x.a + (x.b - x.a) then 1 else 0)
  else 0

theorem coverStep_spec (T : Array PNode) (c : Array Nat) (i : Nat) :
    (coverStep T c i).size = c.size ∧ ∀ j, j < c.size → (coverStep T c i)[j]! = c[j]! + ind T i j := by
  unfold coverStep ind
  simp only
  split
  · refine ⟨by simp, fun j hj => ?_⟩
    rw [modify_get!]
    by_cases h : i + T[i]!.a = j
    · subst h; simp [hj]
    · simp [h]
  · split
    · have := rangeMod_spec (i + T[i]!.a) (T[i]!.b - T[i]!.a) c
      exact this
    · exact ⟨rfl, fun j _ => rfl⟩

theorem coverArr_get (T : Array PNode) (j : Nat) (hj : j < T.size) :
    (coverArr T)[j]! = rsum T.size (fun i => ind T i j) := by
  have h := foldl_range_inv
    (fun k c => c.size = T.size ∧ ∀ j, j < T.size → c[j]! = rsum k (fun i => ind T i j)) (coverStep T)
    (Array.replicate T.size 0) ⟨by simp, fun j _ => by simp [rsum, replicate_get!]⟩ T.size
    (fun k c _ hc => by
      have h1 := coverStep_spec T c k
      rw [hc.1] at h1
      exact ⟨h1.1, fun j hj => by rw [h1.2 j hj, hc.2 j hj, rsum_succ]⟩)
  exact h.2 j hj

/-! ### every slot but the root is the child of exactly one slot -/

/-- `ind` in terms of the local layout -/
def indT (j : Nat) : DNode → Nat → Nat → Nat
  | .ival _, _, _ => 0
  | .create _ _, _, b' => if b' = j then 1 else 0
  | .group _ ds, _, b' => if b' ≤ j ∧ j < b' + ds.length then 1 else 0

theorem ind_eq_indT (T : Array PNode) (j : Nat) (d' : DNode) (g b' : Nat) (hl : LayN T d' g b') (hw : gW d' = true) :
    ind T g j = indT j d' g b' := by
  unfold ind
  cases d' with
  | ival i =>
    simp only [LayN] at hl
    simp only [gW, Bool.and_eq_true, Bool.not_eq_true'] at hw
    simp only [hl, hw.1, hw.2, indT]
    simp
  | create i ch =>
    simp only [LayN] at hl
    simp only [gW, Bool.and_eq_true] at hw
    simp only [hl.1, hw.1.1, indT, if_true, hl.2.1]
  | group i ds =>
    simp only [LayN] at hl
    simp only [gW, Bool.and_eq_true] at hw
    simp only [hl.1, isGroupK_ne_create hw.1, hw.1, indT, if_true, Bool.false_eq_true, if_false]
    have hba : T[g]!.b - T[g]!.a = ds.length := by omega
    rw [hba]
    by_cases hlen : ds.length = 0
    · rw [hlen]; split <;> split <;> omega
    · obtain ⟨e, _⟩ := hl.2.2.1 (by omega); rw [e]

mutual
theorem tsN_indT (j : Nat) : ∀ (d : DNode) (idx base : Nat),
    tsN (indT j) d idx base = if base ≤ j ∧ j < base + descT d then 1 else 0
  | .ival _, _, _ => by
    have e : descT (.ival ‹_›) = 0 := rfl
    simp only [tsN, indT]
    split <;> omega
  | .create i ch, idx, base => by
    have e : descT (.create i ch) = 1 + descT ch := rfl
    simp only [tsN, indT, tsN_indT j ch base (base + 1)]
    (repeat' split) <;> omega
  | .group i ds, idx, base => by
    have e : descT (.group i ds) = ds.length + descS ds := descL_eq ds
    simp only [tsN, indT, tsL_indT j ds base (base + ds.length)]
    (repeat' split) <;> omega
theorem tsL_indT (j : Nat) : ∀ (ds : DList) (k base : Nat),
    tsL (indT j) ds k base = if base ≤ j ∧ j < base + descS ds then 1 else 0
  | .nil, _, _ => by
    have e : descS .nil = 0 := rfl
    simp only [tsL]
    split <;> omega
  | .cons d r, k, base => by
    have e : descS (.cons d r) = descT d + descS r := rfl
    simp only [tsL, tsN_indT j d k base, tsL_indT j r (k + 1) (base + descT d)]
    (repeat' split) <;> omega
end

theorem cover_ok (T : Array PNode) (d : DNode) (hl : LayN T d 0 1) (hn : T.size = 1 + descT d) (hw : gW d = true)
    (j : Nat) (hj : j < T.size) : (coverArr T)[j]! = if j = 0 then 0 else 1 := by
  rw [coverArr_get T j hj,
    sum_all T (fun i => ind T i j) (indT j) (fun d' g b' h1 h2 _ => ind_eq_indT T j d' g b' h1 h2) d hl hn hw,
    tsN_indT]
  by_cases h : j = 0
  · rw [if_pos h, if_neg (by omega)]
  · rw [if_neg h, if_pos (by omega)]

/-! ### the local conditions -/

theorem offLocal_ok (T : Array PNode) (d : DNode) (hl : LayN T d 0 1) (hn : T.size = 1 + descT d) (hw : gW d = true)
    (g : Nat) (hg : g < T.size) : offLocal T g = true := by
  obtain ⟨d', b', q1, q2, q3, q4⟩ := slot_all T d hl hn hw g hg
  unfold offLocal
  cases d' with
  | ival i =>
    simp only [LayN] at q1
    simp only [gW, Bool.and_eq_true, Bool.not_eq_true'] at q2
    simp only [q1, q2.1, q2.2]
    simp
  | create i ch =>
    simp only [LayN] at q1
    simp only [gW, Bool.and_eq_true] at q2
    simp only [descT] at q4
    simp only [q1.1, q2.1.1, if_true, q1.2.1, Bool.and_eq_true, decide_eq_true_eq]
    refine ⟨⟨by omega, by omega⟩, ?_⟩
    cases ch with
    | group ic dsc =>
      have := q1.2.2.2
      simp only [LayN] at this
      rw [this.1]
      exact q2.1.2
    | ival _ => simp [isTaskG] at q2
    | create _ _ => simp [isTaskG] at q2
  | group i ds =>
    simp only [LayN] at q1
    simp only [gW, Bool.and_eq_true] at q2
    simp only [descT] at q4
    rw [descL_eq] at q4
    simp only [q1.1, isGroupK_ne_create q2.1, q2.1, if_true, Bool.false_eq_true, if_false, Bool.or_eq_true, Bool.and_eq_true,
      decide_eq_true_eq, beq_iff_eq]
    by_cases hlen : ds.length = 0
    · left; omega
    · right
      have := q1.2.2.1 (by omega)
      omega

theorem offLocal_group {T : Array PNode} {g : Nat} (h : offLocal T g = true) (hk : isGroupK T[g]!.info.c.kind = true)
    (hab : T[g]!.a < T[g]!.b) : g + T[g]!.b ≤ T.size := by
  simp only [offLocal, isGroupK_ne_create hk, hk, Bool.false_eq_true, if_false, if_true, Bool.or_eq_true,
    Bool.and_eq_true, decide_eq_true_eq, beq_iff_eq] at h
  omega

theorem offLocal_create {T : Array PNode} {g : Nat} (h : offLocal T g = true)
    (hk : (T[g]!.info.c.kind == NKind.createTask) = true) : g + T[g]!.a < T.size := by
  simp only [offLocal, hk, if_true, Bool.and_eq_true, decide_eq_true_eq] at h
  exact h.1.2

/-- **offsets**: a laid-out DAG passes the `offsets` check -/
theorem wfOffsets_of_lay (G : PiDag) (d : DNode) (hl : LayN G.T d 0 1) (hn : G.T.size = 1 + descT d)
    (hw : gW d = true) : wfOffsets G = true := by
  rw [wfOffsets_eq]
  simp only [Bool.and_eq_true, decide_eq_true_eq, List.all_eq_true, List.mem_range, beq_iff_eq]
  exact ⟨by omega, fun i hi => ⟨offLocal_ok G.T d hl hn hw i hi, cover_ok G.T d hl hn hw i hi⟩⟩

/-! ### `dr_pi_dag_set_edge_ptrs` does not move nodes -/

theorem setEdgePtrs_get (T : Array PNode) (E : List PEdge) (j : Nat) (hj : j < T.size) :
    (setEdgePtrs T E)[j]! =
      { T[j]! with eb := (edgePtrTable T.size E)[j]!, ee := (edgePtrTable T.size E)[j + 1]! } := by
  rw [getElem!_pos _ j (by simpa [setEdgePtrs] using hj), getElem!_pos _ j hj]
  simp [setEdgePtrs]

theorem setEdgePtrs_shape (T : Array PNode) (E : List PEdge) (j : Nat) : SameShape (setEdgePtrs T E)[j]! T[j]! := by
  by_cases hj : j < T.size
  · rw [setEdgePtrs_get T E j hj]; exact ⟨rfl, rfl, rfl⟩
  · have h1 : (setEdgePtrs T E)[j]! = default := by apply getElem!_neg; simpa [setEdgePtrs] using hj
    have h2 : T[j]! = default := by apply getElem!_neg; exact hj
    rw [h1, h2]; exact ⟨rfl, rfl, rfl⟩

/-- the node array of `finishDag T st nw` has the layout of `T` -/
theorem finishDag_lay (T : Array PNode) (st : List Nat) (nw : Nat) (d : DNode) (hl : LayN T d 0 1)
    (hn : T.size = 1 + descT d) :
    LayN (finishDag T st nw).T d 0 1 ∧ (finishDag T st nw).T.size = 1 + descT d :=
  ⟨LayN_congr' _ _ d 0 1 (fun j _ => setEdgePtrs_shape _ _ j) hl, by rw [← hn]; exact (setEdgePtrs_spec _ _).1⟩

/-- the node array of `flatten sc nw d` is the layout of `d` -/
theorem flatten_lay (sc nw : Nat) (d : DNode) :
    LayN (flatten sc nw d).T d 0 1 ∧ (flatten sc nw d).T.size = 1 + descT d :=
  finishDag_lay _ _ nw d (enumNodes_lay sc d).1 (enumNodes_lay sc d).2

end MythVerif.PiDag
