import MythVerif.Proofs.WsQueueTsoParts
/-! Every step of the owner preserves the invariant of the TSO machine. -/
namespace MythVerif.WsqTso
open MythVerif.Wsq

/-- pop's store of the decremented `top` behind what the last push left in the buffer -/
theorem carry_pof {bufO : List Sto} {top lt : Int} {ptr : Int → Option Elem} {A : List Elem}
    (h : CarryShape bufO top lt ptr A) : PofShape (bufO ++ [.top (lt - 1)]) top ptr A (lt - 1) := by
  rcases h with ⟨rfl, rfl⟩ | ⟨rfl, h2, h3, h4⟩ | ⟨e, rfl, h2, h4⟩
  · exact Or.inl ⟨rfl, by omega⟩
  · exact Or.inr (Or.inr (Or.inl ⟨by simp, h2, h3, h4⟩))
  · exact Or.inr (Or.inr (Or.inr ⟨e, by simp, h2, h4⟩))

theorem stepO_inv (s s' : St) (h : Inv s) (hs : stepO s = some s') : Inv s' := by
  obtain ⟨hf1, hf2, _, hf3, _, _⟩ := h.fences
  have g := h.glob
  have ho := h.ownerAt
  cases hpc : s.opc <;> rw [hpc] at ho <;>
    simp only [stepO, hpc, releaseO, hf1, hf2, hf3, fenceOk_true, List.isEmpty_iff, if_true] at hs
  case idle | stuck | stuckL | assertFail => cases hs
  -- lock: nobody else holds it, before or after; a failed attempt changes nothing
  case pul e | pol t | ptl e | cll =>
    split at hs
    · split at hs <;> cases hs
      · rename_i hb _ hfree
        refine h.owner_step_alone (fun p hp => by rw [hfree] at hp; cases hp) rfl rfl
          (g.owner_acquire hpc hfree rfl rfl rfl) ?_
        simp only [OwnerAt, CarryShape, hb] at ho ⊢; grind
      · exact h
    · cases hs
  -- inside a locked section nobody else holds the lock; what is left per successor state is `Glob`
  -- (`Glob.owner_move` where the class of the program counter stays) and the owner's new clause
  case pt7 e b =>
    cases hs
    obtain ⟨hb, hsh⟩ := ho
    refine h.owner_step_alone (h.owner_locked hpc rfl) rfl rfl (by tso_glob_owner g hpc []) ⟨hb, ?_⟩
    rcases hsh with hp | ⟨h1, h2, h3, h4⟩
    · exact Or.inl (rcpre_append _ _ _ _ _ _ _ hp)
    · exact Or.inr ⟨h2, h3, h4, Or.inr (by rw [h1]; rfl)⟩
  case pub e | pum e off | pus e off | puv e off | po4 t | po5 t x | po5b t r | po5c t r | po5d r | po7 | po8
      | pt1 e | pt2 e | pt3 e off | pt4 e off | pt5 e off | pt6 e | pt8 e b | cl1 | cl2 =>
    have hv := h.owner_view hpc rfl
    simp only [OwnerAt] at ho
    repeat' split at hs
    all_goals cases hs
    all_goals refine h.owner_step_alone (h.owner_locked hpc rfl) rfl rfl ?_ ?_
    all_goals first
      | (guard_target = Glob _
         first | exact g.owner_move hpc rfl rfl rfl | tso_glob_owner g hpc [List.length_dropLast, viewTop, viewBase])
      | (guard_target = OwnerAt _ _
         simp only [OwnerAt]
         grind [Pu2Shape, Po5cShape, Po6Shape, Po8Shape, Po9Shape, InsShape, Rc1Shape, Rc2Shape, RcPre, RcShape,
           Cl2Shape, Cl3Shape, CarryShape, viewTop, viewBase, viewPtr, resetting])
  -- unlock: the fence has emptied the buffer, so memory and the ghosts agree
  case pux e t | po6 r | po9 | pt9 | cl3 =>
    have hv := h.owner_view hpc rfl
    split at hs <;> cases hs
    rename_i hb
    simp only [OwnerAt, hb, Po6Shape, Po9Shape, InsShape, RcPre, RcShape, Cl3Shape] at ho
    simp only [resetting] at hv
    refine h.owner_step_alone (h.owner_locked hpc rfl) rfl rfl ?_ ?_
    · refine g.owner_release hpc rfl rfl rfl ?_ ?_ ?_ ?_
      all_goals first | rfl | exact g.flOn (by rw [hpc]; rfl) | grind
    · simp only [OwnerAt, CarryShape]; grind
  -- outside the locked sections somebody else may hold the lock: its clause (`ThiefAt.frame`) reads the base
  -- end of the window, which push and the fast path of pop leave alone.  `po2` commits to the fast path on
  -- `base + 1 < t`; if that `base` was a lock holder's transient `lb + 1`, two elements remain below `t`, so
  -- the head survives `dropLast` (`dropLast_keep`) and memory `top` stays above `lb`.
  case po1 =>
    rw [carry_viewTop _ _ _ _ _ ho] at hs; cases hs
    refine h.owner_step rfl rfl (by tso_glob_owner g hpc []) ⟨by show s.lt = s.lt - 1 + 1; omega, carry_pof ho⟩
      fun p hp hat => hat.frame rfl rfl rfl (fun _ _ => rfl) fun htr hA hw => ⟨hA, rfl, rfl, ?_⟩
    rw [hpc] at hw; exact Or.inl (hw.resolve_right fun h => by cases h.1)
  case pu0 e | pu0f e t | pu1 e t | pu2 e t | pq | pof t | po2 t | po3 t x =>
    have hlb := g.lbase (by rw [hpc]; rfl)
    have hk := dropLast_keep s.A
    have hlen := g.len
    simp only [OwnerAt] at ho
    repeat' split at hs
    all_goals cases hs
    all_goals refine h.owner_step rfl rfl ?_ ?_ fun p hp hat =>
      hat.frame rfl rfl rfl (fun _ _ => rfl) fun htr hA hw => ?_
    all_goals first
      | (guard_target = Glob _
         first | exact g.owner_move hpc rfl rfl rfl | tso_glob_owner g hpc [List.length_dropLast])
      | (guard_target = OwnerAt _ _
         simp only [OwnerAt]
         grind [CarryShape, Pu2Shape, PofShape, viewTop, viewBase, viewPtr, List.getLast?_concat])
      | (guard_hyp hw
         simp only [hpc, popWin] at hw ⊢
         grind [head?_append_of_ne, viewBase])

end MythVerif.WsqTso
