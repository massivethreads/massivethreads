import MythVerif.Model.TaskGroup
/-! helper lemmas for C17: the chunked task list and the bump allocator of `mtbb::task_group` -/
namespace MythVerif.TaskGroup

theorem add_flatten (cfg : Cfg) (tl : TaskList) (t : Task) :
    (tl.add cfg t).nodes.flatten = tl.nodes.flatten ++ [t] := by
  unfold TaskList.add TaskList.nodes
  split <;> simp

/-- every node before `tail` is full, `tail` is within its capacity and (unless it is the
    head) not empty -/
def Shape (cfg : Cfg) (tl : TaskList) : Prop :=
  (∀ n ∈ tl.full, n.length = cfg.cap) ∧ tl.tail.length ≤ cfg.cap ∧ (tl.full ≠ [] → tl.tail ≠ [])

theorem shape_init (cfg : Cfg) : Shape cfg TaskList.init := by
  simp [Shape, TaskList.init]

theorem add_shape (cfg : Cfg) (hc : 0 < cfg.cap) (tl : TaskList) (t : Task) (h : Shape cfg tl) :
    Shape cfg (tl.add cfg t) := by
  obtain ⟨h1, h2, h3⟩ := h
  unfold TaskList.add
  split
  · rename_i heq
    refine ⟨?_, by simp; omega, by simp⟩
    intro n hn
    simp only [List.mem_append, List.mem_singleton] at hn
    rcases hn with hn | rfl
    · exact h1 n hn
    · exact heq
  · rename_i hne
    refine ⟨h1, by simp; omega, by simp⟩

/-- invariant of the allocator together with the blocks handed out since the last reset -/
def MemInv (m : Mem) (bs : List Block) : Prop :=
  m.tail.2 ≤ m.tail.1 ∧
  (∀ b ∈ bs, ∃ sz used, m.chunks[b.chunk]? = some (sz, used) ∧ b.off + b.size ≤ used ∧ used ≤ sz) ∧
  bs.Pairwise Block.disjoint

theorem memInv_init (cfg : Cfg) : MemInv (Mem.init cfg) [] := by
  simp [MemInv, Mem.init]

theorem chunks_length (m : Mem) : m.chunks.length = m.done.length + 1 := by
  simp [Mem.chunks]

theorem alloc_size (cfg : Cfg) (m : Mem) (s : Nat) : (m.alloc cfg s).2.size = s := by
  unfold Mem.alloc; split <;> rfl

theorem alloc_inv (cfg : Cfg) (m : Mem) (bs : List Block) (s : Nat) (h : MemInv m bs) :
    MemInv (m.alloc cfg s).1 (bs ++ [(m.alloc cfg s).2]) := by
  obtain ⟨h1, h2, h3⟩ := h
  -- an old block lies in a chunk before the tail, or in the tail below its fill mark
  have hold : ∀ b ∈ bs, b.chunk < m.done.length ∨ (b.chunk = m.done.length ∧ b.off + b.size ≤ m.tail.2) := by
    intro b hb
    obtain ⟨sz, u, hg, h5, _⟩ := h2 b hb
    have := (List.getElem?_eq_some_iff.mp hg).1
    rw [chunks_length] at this
    by_cases hc : b.chunk = m.done.length
    · simp [Mem.chunks, hc] at hg
      exact Or.inr ⟨hc, by rw [hg]; exact h5⟩
    · exact Or.inl (by omega)
  unfold Mem.alloc
  split
  · -- a new chunk: the old chunks stay as they are
    refine ⟨by simp only; split <;> omega, ?_, ?_⟩
    · intro b hb
      rcases List.mem_append.mp hb with hb | hb
      · obtain ⟨sz, u, hg, h5, h6⟩ := h2 b hb
        refine ⟨sz, u, ?_, h5, h6⟩
        simp only [Mem.chunks] at hg ⊢
        rw [List.getElem?_append_left (by rcases hold b hb with h | h <;> simp <;> omega)]
        exact hg
      · rw [List.mem_singleton.mp hb]
        exact ⟨if s ≤ cfg.chunk then cfg.chunk else s, s, by simp [Mem.chunks], by simp, by split <;> omega⟩
    · refine List.pairwise_append.mpr ⟨h3, by simp, fun x hx y hy => Or.inl ?_⟩
      rw [List.mem_singleton.mp hy]
      rcases hold x hx with h | h <;> simp only <;> omega
  · -- the tail's fill mark moves up
    refine ⟨by simp only; omega, ?_, ?_⟩
    · intro b hb
      rcases List.mem_append.mp hb with hb | hb
      · obtain ⟨sz, u, hg, h5, h6⟩ := h2 b hb
        rcases hold b hb with hc | ⟨hc, ht⟩
        · refine ⟨sz, u, ?_, h5, h6⟩
          simp only [Mem.chunks] at hg ⊢
          rw [List.getElem?_append_left hc] at hg ⊢
          exact hg
        · exact ⟨m.tail.1, m.tail.2 + s, by simp [Mem.chunks, hc], by omega, by omega⟩
      · rw [List.mem_singleton.mp hb]
        exact ⟨m.tail.1, m.tail.2 + s, by simp [Mem.chunks], by simp, by omega⟩
    · refine List.pairwise_append.mpr ⟨h3, by simp, fun x hx y hy => ?_⟩
      rw [List.mem_singleton.mp hy]
      rcases hold x hx with h | ⟨_, h⟩
      · exact Or.inl (by simp only; omega)
      · exact Or.inr (Or.inl h)
/-- what holds of a task group at any time: list shape, allocator invariant, the tasks in the
    list are exactly the ones run since the last `wait`, in order, one block each -/
structure Inv (cfg : Cfg) (g : TG) : Prop where
  shape : Shape cfg g.tasks
  mem : MemInv g.mem g.blocks
  ids : g.tasks.nodes.flatten = List.range' (g.next - g.blocks.length) g.blocks.length
  le : g.blocks.length ≤ g.next

theorem inv_init (cfg : Cfg) : Inv cfg (TG.init cfg) :=
  ⟨shape_init cfg, memInv_init cfg, by simp [TG.init, TaskList.init, TaskList.nodes], by simp [TG.init]⟩

theorem run_inv (cfg : Cfg) (hc : 0 < cfg.cap) (g : TG) (size : Nat) (h : Inv cfg g) :
    Inv cfg (g.run cfg size) := by
  obtain ⟨h1, h2, h4, h5⟩ := h
  unfold TG.run
  refine ⟨add_shape cfg hc _ _ h1, alloc_inv cfg g.mem g.blocks size h2, ?_, ?_⟩
  · rw [add_flatten, h4]
    simp only [List.length_append, List.length_singleton]
    rw [show g.next + 1 - (g.blocks.length + 1) = g.next - g.blocks.length by omega,
        List.range'_1_concat, show g.next - g.blocks.length + g.blocks.length = g.next by omega]
  · simp only [List.length_append, List.length_singleton]; omega

theorem wait_inv (cfg : Cfg) (g : TG) (_h : Inv cfg g) : Inv cfg (g.wait cfg).2 := by
  unfold TG.wait
  exact ⟨shape_init cfg, memInv_init cfg, by simp [TaskList.init, TaskList.nodes], by simp⟩

theorem runs_inv (cfg : Cfg) (hc : 0 < cfg.cap) (sizes : List Nat) : ∀ (g : TG), Inv cfg g →
    Inv cfg (g.runs cfg sizes) := by
  induction sizes with
  | nil => intro g h; exact h
  | cons s ss ih => intro g h; exact ih _ (run_inv cfg hc g s h)

theorem runs_blocks (cfg : Cfg) (sizes : List Nat) : ∀ (g : TG),
    (g.runs cfg sizes).blocks.map Block.size = g.blocks.map Block.size ++ sizes ∧
    (g.runs cfg sizes).next = g.next + sizes.length := by
  induction sizes with
  | nil => intro g; simp [TG.runs]
  | cons s ss ih =>
    intro g
    have := ih (g.run cfg s)
    simp only [TG.runs, List.foldl_cons] at this ⊢
    rw [this.1, this.2]
    constructor
    · simp only [TG.run, List.map_append, List.map_cons, List.map_nil, List.append_assoc,
        List.singleton_append]
      rw [alloc_size]
    · simp only [TG.run, List.length_cons]; omega

/-- the states a task group can be in: after the constructor, after `run`, after `wait` -/
inductive Reach (cfg : Cfg) : TG → Prop where
  | init : Reach cfg (TG.init cfg)
  | run {g} (size : Nat) : Reach cfg g → Reach cfg (g.run cfg size)
  | wait {g} : Reach cfg g → Reach cfg (g.wait cfg).2

theorem reach_inv (cfg : Cfg) (hc : 0 < cfg.cap) (g : TG) (h : Reach cfg g) : Inv cfg g := by
  induction h with
  | init => exact inv_init cfg
  | run size _ ih => exact run_inv cfg hc _ size ih
  | wait _ ih => exact wait_inv cfg _ ih

/-- on one worker the tasks run in `run` order, then the rest -/
theorem usage_seq {ε : Type} (ts : List (Bulk.FJ ε)) (rest : Bulk.FJ ε) :
    (usage ts rest).seq = ts.flatMap Bulk.FJ.seq ++ rest.seq := by
  induction ts with
  | nil => simp [usage]
  | cons t ts ih => simp [usage, Bulk.FJ.seq, ih]

end MythVerif.TaskGroup
