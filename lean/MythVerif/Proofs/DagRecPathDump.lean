import MythVerif.Proofs.DagRecPathMain
import MythVerif.Proofs.PiDagTreeOrder
/-!
The dependency graph `depGraph t` IS the edge list of the C19 model: for the uncontracted
recording `d` of an execution `t`, the tree form `PiDag.teN` of what `dr_pi_dag_enum_edges` emits
for a dump of `d` is `edgesT t 0` with every position `j` (in program order) renamed to the array
slot `(leavesN d 0 1)[j]` the `j`-th interval occupies in the dump.
-/
namespace MythVerif.PiDag
open MythVerif.DagRec

/-! ### the infos of the leaves, in the order of their slots `leavesN` -/

mutual
def linfoN : DNode → List Info
  | .ival i => [i]
  | .create i ch => i :: linfoN ch
  | .group i ds => if ds.isNil then [i] else linfoL ds
def linfoL : DList → List Info
  | .nil => []
  | .cons d r => linfoN d ++ linfoL r
end

mutual
theorem leavesN_length : ∀ (d : DNode) (idx base : Nat), (leavesN d idx base).length = (linfoN d).length
  | .ival _, _, _ => rfl
  | .create _ ch, _, base => by simp [leavesN, linfoN, leavesN_length ch]
  | .group _ ds, _, base => by
    simp only [leavesN, linfoN]
    split
    · rfl
    · exact leavesL_length ds _ _
theorem leavesL_length : ∀ (ds : DList) (k base : Nat), (leavesL ds k base).length = (linfoL ds).length
  | .nil, _, _ => rfl
  | .cons d r, k, base => by simp [leavesL, linfoL, leavesN_length d, leavesL_length r]
end

end MythVerif.PiDag

namespace MythVerif.DagRec
open MythVerif.PiDag

/-- `σ` maps the positions `o, o+1, …` to the slots `S` -/
def AgreeS (σ : Nat → Nat) (o : Nat) (S : List Nat) : Prop := ∀ j (h : j < S.length), σ (o + j) = S[j]

theorem AgreeS.append {σ : Nat → Nat} {o : Nat} {A B : List Nat} (h : AgreeS σ o (A ++ B)) :
    AgreeS σ o A ∧ AgreeS σ (o + A.length) B :=
  forall_getElem_append (P := fun u (s : Nat) => σ u = s) h

theorem AgreeS.cons {σ : Nat → Nat} {o a : Nat} {S : List Nat} (h : AgreeS σ o (a :: S)) :
    σ o = a ∧ AgreeS σ (o + 1) S :=
  forall_getElem_cons (P := fun u (s : Nat) => σ u = s) h

/-- a policy that never contracts -/
def NoContract (pol : Policy) : Prop := ∀ i ds, pol i ds = .group i ds

theorem noContract_keepAll : NoContract keepAll := fun _ _ => rfl

/-- with every contraction option zero `dr_summarize_section_or_task` keeps everything (this is `Opts`' default,
    not `dr_options_default` of `dag_recorder.h`, whose `collapse_max` is `1L << 60`) -/
theorem noContract_default (v : Variant) : NoContract (summarize v {}) := by
  intro i ds
  simp [summarize]

theorem rec_isNil (v : Variant) (pol : Policy) (f : Forest) (c : Cursor) : (recForest v pol f c).1.isNil = f.isNil := by
  cases f with
  | nil => simp [rec_nil, DList.isNil, Forest.isNil]
  | cons x r => simp [rec_cons, DList.isNil, Forest.isNil]

theorem wnForest_isNil {b : Bool} {f : Forest} (h : wnForest b f = true) : f.isNil = false := by
  cases f with
  | nil => simp [wnForest] at h
  | cons _ _ => rfl

/-! ### the leaves of the recording are the intervals, in program order -/

theorem noContract_admissible {pol : Policy} (hk : NoContract pol) : Admissible pol :=
  fun i ds => ⟨i, ds, hk i ds, rfl⟩

mutual
/-- the leaves of the uncontracted recording carry the leaf infos of the execution -/
theorem linfoN_rec (v : Variant) (pol : Policy) (hk : NoContract pol) : ∀ (x : Tree) (c : Cursor), WnAny x →
    linfoN (recTree v pol x c).1 = leafInfosTree v x c
  | .ival k r, c, _ => by rw [rec_ival]; simp [linfoN, leafInfosTree]
  | .create r ch, c, h => by
    rw [rec_create]
    simp only [linfoN, leafInfosTree]
    rw [linfoN_rec v pol hk ch _ (wnAny_of_task (wnAny_create h))]
  | .group k f, c, h => by
    obtain ⟨b, hb⟩ := wnAny_group h
    rw [rec_group, hk]
    simp only [linfoN, rec_isNil, wnForest_isNil hb, Bool.false_eq_true, if_false, leafInfosTree]
    exact linfoL_rec v pol hk f c b hb
theorem linfoL_rec (v : Variant) (pol : Policy) (hk : NoContract pol) : ∀ (f : Forest) (c : Cursor) (b : Bool),
    wnForest b f = true → linfoL (recForest v pol f c).1 = leafInfosForest v f c
  | .nil, _, _, h => by simp [wnForest] at h
  | .cons x .nil, c, b, h => by
    simp only [wnForest] at h
    rw [rec_cons, rec_nil, leafInfosForest_cons]
    simp only [linfoL, leafInfosForest, List.append_nil]
    exact linfoN_rec v pol hk x c (wnAny_of_last h)
  | .cons x (.cons y r), c, b, h => by
    simp only [wnForest, Bool.and_eq_true] at h
    rw [rec_cons, leafInfosForest_cons, linfoL, linfoN_rec v pol hk x c (wnAny_of_item h.1),
      (recTree_view v pol (noContract_admissible hk) x c).2, linfoL_rec v pol hk (.cons y r) _ b h.2]
end

theorem leavesN_rec_length (v : Variant) (pol : Policy) (hk : NoContract pol) (x : Tree) (c : Cursor) (idx base : Nat)
    (h : WnAny x) : (leavesN (recTree v pol x c).1 idx base).length = (leavesTree x).length := by
  rw [leavesN_length, linfoN_rec v pol hk x c h, leafInfosTree_length]

theorem leavesL_rec_length (v : Variant) (pol : Policy) (hk : NoContract pol) : ∀ (f : Forest) (c : Cursor) (k base : Nat) (b : Bool), wnForest b f = true →
    (leavesL (recForest v pol f c).1 k base).length = (leavesForest f).length := by
  intro f c k base b h
  rw [leavesL_length, linfoL_rec v pol hk f c b h, leafInfosForest_length]

/-- splitting the slot list of a section's / task's children at the first child -/
theorem AgreeS.split (v : Variant) (pol : Policy) (hk : NoContract pol) {σ : Nat → Nat} {o : Nat} {x : Tree} {rest : Forest} {c : Cursor} {k base : Nat}
    (h : AgreeS σ o (leavesL (recForest v pol (.cons x rest) c).1 k base)) (hx : WnAny x) :
    AgreeS σ o (leavesN (recTree v pol x c).1 k base) ∧
    AgreeS σ (o + (leavesTree x).length)
      (leavesL (recForest v pol rest (recTree v pol x c).2).1 (k + 1) (base + descT (recTree v pol x c).1)) := by
  rw [rec_cons, leavesL] at h
  have := h.append
  rwa [leavesN_rec_length v pol hk x c k base hx] at this

mutual
theorem firstLast_rec (v : Variant) (pol : Policy) (hk : NoContract pol) (σ : Nat → Nat) : ∀ (x : Tree) (c : Cursor) (idx base o : Nat), WnAny x →
    AgreeS σ o (leavesN (recTree v pol x c).1 idx base) →
    firstN (recTree v pol x c).1 idx base = σ o ∧ lastN (recTree v pol x c).1 idx base = σ (lastT x o)
  | .ival k r, c, idx, base, o, _, ha => by
    rw [rec_ival] at ha ⊢
    simp only [leavesN] at ha
    simp [firstN, lastN, lastT, ha.cons.1]
  | .create r ch, c, idx, base, o, _, ha => by
    rw [rec_create] at ha ⊢
    simp only [leavesN] at ha
    simp [firstN, lastN, lastT, ha.cons.1]
  | .group k f, c, idx, base, o, h, ha => by
    obtain ⟨b, hb⟩ := wnAny_group h
    rw [rec_group, hk] at ha ⊢
    simp only [leavesN, rec_isNil, wnForest_isNil hb, Bool.false_eq_true, if_false] at ha
    have := firstLastL_rec v pol hk σ f c base _ o b hb ha
    simp only [firstN, lastN, lastT]
    exact ⟨this.1 idx, this.2 idx o⟩
theorem firstLastL_rec (v : Variant) (pol : Policy) (hk : NoContract pol) (σ : Nat → Nat) : ∀ (f : Forest) (c : Cursor) (k base o : Nat) (b : Bool),
    wnForest b f = true → AgreeS σ o (leavesL (recForest v pol f c).1 k base) →
    (∀ dflt, firstL (recForest v pol f c).1 k base dflt = σ o) ∧
    (∀ dflt d', lastL (recForest v pol f c).1 k base dflt = σ (lastF f o d'))
  | .nil, _, _, _, _, _, h, _ => by simp [wnForest] at h
  | .cons x .nil, c, k, base, o, b, h, ha => by
    simp only [wnForest] at h
    obtain ⟨a1, _⟩ := AgreeS.split v pol hk ha (wnAny_of_last h)
    have := firstLast_rec v pol hk σ x c k base o (wnAny_of_last h) a1
    rw [rec_cons, rec_nil]
    simp only [firstL, lastL, lastF]
    exact ⟨fun _ => this.1, fun _ _ => this.2⟩
  | .cons x (.cons y r), c, k, base, o, b, h, ha => by
    simp only [wnForest, Bool.and_eq_true] at h
    obtain ⟨a1, a2⟩ := AgreeS.split v pol hk ha (wnAny_of_item h.1)
    have h1 := firstLast_rec v pol hk σ x c k base o (wnAny_of_item h.1) a1
    have h2 := firstLastL_rec v pol hk σ (.cons y r) _ (k + 1) _ _ b h.2 a2
    rw [rec_cons]
    refine ⟨fun _ => by simp only [firstL]; exact h1.1, fun _ d' => ?_⟩
    rw [lastL, h2.2 _ (lastT x o)]
    rfl
end

def uv (e : PEdge) : Nat × Nat := (e.u, e.v)

/-- the endpoints of an edge between positions, as slots -/
def ren (σ : Nat → Nat) (e : PEdge) : Nat × Nat := (σ e.u, σ e.v)

theorem createEdges_rec (v : Variant) (pol : Policy) (hk : NoContract pol) (σ : Nat → Nat) (t t' : Nat) (ht : t = σ t') : ∀ (f : Forest) (c : Cursor) (y base o : Nat),
    wnForest false f = true → AgreeS σ o (leavesL (recForest v pol f c).1 y base) →
    (createEdges t (recForest v pol f c).1 y base).map uv = (createEdgesF t' f o).map (ren σ)
  | .nil, _, _, _, _, h, _ => by simp [wnForest] at h
  | .cons x .nil, c, y, base, o, h, _ => by
    simp only [wnForest] at h
    obtain ⟨k, r, rfl⟩ := isLast_ival h
    rw [rec_cons, rec_nil, rec_ival]
    simp [createEdges, createOf, createEdgesF, createOfT]
  | .cons x (.cons z r), c, y, base, o, h, ha => by
    simp only [wnForest, Bool.and_eq_true] at h
    obtain ⟨a1, a2⟩ := AgreeS.split v pol hk ha (wnAny_of_item h.1)
    have ih := createEdges_rec v pol hk σ t t' ht (.cons z r) _ (y + 1) _ _ h.2 a2
    rw [rec_cons, createEdges, createEdgesF, List.map_append, List.map_append, ih]
    congr 1
    cases x with
    | ival k r => rw [rec_ival]; simp [createOf, createOfT]
    | group k f' => rw [rec_group, hk]; simp [createOf, createOfT]
    | create rr ch =>
      have hch := (wnItem_create h.1).2
      rw [rec_create] at a1 ⊢
      simp only [leavesN] at a1
      obtain ⟨e1, a3⟩ := a1.cons
      have := firstLast_rec v pol hk σ ch _ base (base + 1) (o + 1) (wnAny_of_task hch) a3
      simp [createOf, createOfT, uv, ren, this.1, this.2, e1, ht]

mutual
theorem teN_rec (v : Variant) (pol : Policy) (hk : NoContract pol) (kf : Nat → EKind) (σ : Nat → Nat) : ∀ (x : Tree) (c : Cursor) (idx base o : Nat), WnAny x →
    AgreeS σ o (leavesN (recTree v pol x c).1 idx base) →
    (teN kf (recTree v pol x c).1 idx base).map uv = (edgesT x o).map (ren σ)
  | .ival k r, c, idx, base, o, _, _ => by rw [rec_ival]; simp [teN, edgesT]
  | .create r ch, c, idx, base, o, h, ha => by
    rw [rec_create] at ha ⊢
    simp only [leavesN] at ha
    simp only [teN, edgesT]
    exact teN_rec v pol hk kf σ ch _ base (base + 1) (o + 1) (wnAny_of_task (wnAny_create h)) ha.cons.2
  | .group k f, c, idx, base, o, h, ha => by
    obtain ⟨b, hb⟩ := wnAny_group h
    rw [rec_group, hk] at ha ⊢
    simp only [leavesN, rec_isNil, wnForest_isNil hb, Bool.false_eq_true, if_false] at ha
    have := teL_rec v pol hk kf σ f c base _ o b hb ha
    simp only [teN, edgesT, List.map_append, this.1, this.2]
theorem teL_rec (v : Variant) (pol : Policy) (hk : NoContract pol) (kf : Nat → EKind) (σ : Nat → Nat) : ∀ (f : Forest) (c : Cursor) (k base o : Nat) (b : Bool),
    wnForest b f = true → AgreeS σ o (leavesL (recForest v pol f c).1 k base) →
    (groupEdges kf (recForest v pol f c).1 k base).map uv = (groupEdgesF f o).map (ren σ) ∧
    (teL kf (recForest v pol f c).1 k base).map uv = (edgesSubF f o).map (ren σ)
  | .nil, _, _, _, _, _, h, _ => by simp [wnForest] at h
  | .cons x .nil, c, k, base, o, b, h, ha => by
    simp only [wnForest] at h
    obtain ⟨a1, _⟩ := AgreeS.split v pol hk ha (wnAny_of_last h)
    have := teN_rec v pol hk kf σ x c k base o (wnAny_of_last h) a1
    rw [rec_cons, rec_nil]
    simp [groupEdges, DList.isNil, teL, groupEdgesF, Forest.isNil, edgesSubF, this]
  | .cons x (.cons y r), c, k, base, o, b, h, ha => by
    simp only [wnForest, Bool.and_eq_true] at h
    have hwx := wnAny_of_item h.1
    obtain ⟨a1, a2⟩ := AgreeS.split v pol hk ha hwx
    have h1 := teN_rec v pol hk kf σ x c k base o hwx a1
    have h2 := teL_rec v pol hk kf σ (.cons y r) _ (k + 1) _ _ b h.2 a2
    have hfl := firstLast_rec v pol hk σ x c k base o hwx a1
    have hfr := (firstLastL_rec v pol hk σ (.cons y r) _ (k + 1) _ _ b h.2 a2).1 0
    have hnil : (recForest v pol (.cons y r) (recTree v pol x c).2).1.isNil = false := by
      rw [rec_isNil]; rfl
    rw [rec_cons]
    constructor
    · rw [groupEdges, groupEdgesF_cons2, hnil]
      simp only [Bool.false_eq_true, if_false, List.map_append, h2.1]
      congr 1
      simp only [itemEdges, itemEdgesT, List.map_cons, hfr, hfl.2]
      congr 1
      cases x with
      | ival k' r' => rw [rec_ival]; simp [sectionEdges, sectionEdgesT]
      | create rr ch => rw [rec_create]; simp [sectionEdges, sectionEdgesT]
      | group k' f' =>
        obtain ⟨rfl, hf'⟩ := wnItem_group h.1
        rw [rec_group, hk] at a1 ⊢
        simp only [leavesN, rec_isNil, wnForest_isNil hf', Bool.false_eq_true, if_false] at a1
        simp only [sectionEdges, sectionEdgesT, accumulate_kind, beq_self_eq_true, if_true]
        exact createEdges_rec v pol hk σ _ _ rfl f' c base _ o hf' a1
    · rw [teL, edgesSubF_cons, List.map_append, List.map_append, h1, h2.2]
end

end MythVerif.DagRec
