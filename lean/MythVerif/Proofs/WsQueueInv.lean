import MythVerif.Model.WsQueue
import MythVerif.Proofs.WsQueueSeq
import Lean
/-! The inductive invariant of the concurrent SC model of the work-stealing queue
    (DESIGN Appendix A.2, extended to re-centring, put, clear, decision callback, peek).
    `Proofs/WsQueueParts.lean` states the same clauses grouped by whose program counter they speak of
    (`inv_iff`); a clause changed here is changed there too. -/
namespace MythVerif.Wsq

def ownerLocked : OPc → Bool
  | .pub _ | .pum _ _ | .pus _ _ | .puv _ _ | .pux _ _
  | .po4 _ | .po5 _ _ | .po5b _ _ | .po5c _ _ | .po5d _ | .po6 _ | .po7 | .po8 | .po9
  | .pt1 _ | .pt2 _ | .pt3 _ _ | .pt4 _ _ | .pt5 _ _ | .pt7 _ _ | .pt8 _ _ | .pt9
  | .cl1 | .cl2 | .cl3
  | .aborted | .assertFail => true      -- the process dies holding the lock
  | _ => false

def thiefLocked : TPc → Bool
  | .tk1 | .tk2 _ | .tk3 _ _ | .tk4 _ | .tk5 _ | .tk6
  | .wk1 | .wk2 _ | .wk3 _ | .wkd _ _ | .wk4 _ | .wk4u _ | .wk5 _ | .wk6
  | .tp1 _ | .tp2 _ _ | .tp3 _ _ | .tp4 _
  | .vc1 | .vk1 | .vk2 _ | .vk3 _ | .vk4 _ _ | .vk5 _ | .vu => true
  | _ => false

/-- a thief's `base+1` is stored and its verdict (claim or roll-back) is still pending -/
def transient : TPc → Bool
  | .tk2 _ | .tk5 _ | .wk2 _ | .wk3 _ | .wkd _ _ | .wk5 _ | .vk2 _ | .vk3 _ | .vk4 _ _ | .vk5 _ => true
  | _ => false

/-- the owner has decremented `top` and slot `top` is not decided yet -/
def midPop : OPc → Bool
  | .po2 _ | .pol _ | .po4 _ | .po7 => true
  | _ => false

/-- program counters at which the concrete `top` lags behind the ghost `lt` (inside a shift) -/
def topSync : OPc → Bool
  | .pus _ _ | .pt4 _ _ | .cl2 => false
  | _ => true

def baseSync : OPc → Bool
  | .pus _ _ | .puv _ _ | .pt4 _ _ | .pt5 _ _ | .po8 => false
  | _ => true

/-- the owner holds an element it removed from `A` and has not returned yet -/
def ownerFlight : OPc → Bool
  | .po3 _ _ | .po5 _ _ | .po5b _ _ | .po5c _ _ | .po5d _ | .po6 _ => true
  | _ => false

def thiefFlight : TPc → Bool
  | .tk3 _ _ | .tk4 _ | .wk4 _ | .wk4u _ => true
  | _ => false

structure Inv (s : St) : Prop where
  lockO : s.lock = .owner ↔ ownerLocked s.opc = true
  lockT : ∀ p, s.lock = .thief p ↔ thiefLocked (s.tpc p) = true
  len   : (s.A.length : Int) = s.lt - s.lb
  cont  : ∀ k : Nat, k < s.A.length → s.ptr (s.lb + k) = s.A[k]?
  lb0   : 0 ≤ s.lb
  lts   : s.lt ≤ s.size
  base0 : 0 ≤ s.base
  tops  : s.top ≤ s.size
  ltop  : topSync s.opc = true → s.lt = s.top + (if midPop s.opc = true then 1 else 0)
  lbase : baseSync s.opc = true → s.base = s.lb + (if s.tr = true then 1 else 0)
  trp   : ∀ p, s.lock = .thief p → (s.tr = true ↔ transient (s.tpc p) = true)
  trn   : s.tr = true → ∃ p, s.lock = .thief p
  flOn  : ownerFlight s.opc = false → s.flO = none
  flTn  : s.flT ≠ none → ∃ p, s.lock = .thief p ∧ thiefFlight (s.tpc p) = true
  -- push
  pul   : ∀ e, s.opc = .pul e → s.top = s.size
  pub   : ∀ e, s.opc = .pub e → s.top = s.size
  pum   : ∀ e off, s.opc = .pum e off → s.top = s.size ∧ off < 0 ∧ 0 ≤ s.base + off
  pus   : ∀ e off, s.opc = .pus e off → s.lt = s.top + off ∧ s.lb = s.base + off ∧ s.top = s.size ∧ off < 0
  puv   : ∀ e off, s.opc = .puv e off → s.lb = s.base + off ∧ s.top < s.size
  pux   : ∀ e t, s.opc = .pux e t → s.top = t ∧ t < s.size
  pu1   : ∀ e t, s.opc = .pu1 e t → s.top = t ∧ t < s.size ∧ 0 ≤ t
  pu2   : ∀ e t, s.opc = .pu2 e t → s.top = t ∧ t < s.size ∧ s.ptr t = some e
  -- pop
  po1   : s.opc = .po1 → 1 ≤ s.top
  po2   : ∀ t, s.opc = .po2 t → s.top = t ∧ 0 ≤ t ∧ t < s.size
  pol   : ∀ t, s.opc = .pol t → s.top = t ∧ 0 ≤ t ∧ t < s.size
  po4   : ∀ t, s.opc = .po4 t → s.top = t ∧ 0 ≤ t ∧ t < s.size
  po3   : ∀ t x, s.opc = .po3 t x → s.top = t ∧ s.ptr t = some x ∧ s.lb ≤ t ∧ s.flO = some x ∧ t < s.size
  po5   : ∀ t x, s.opc = .po5 t x → s.top = t ∧ s.ptr t = some x ∧ s.flO = some x ∧ 0 ≤ t ∧ t < s.size
  po5b  : ∀ t r, s.opc = .po5b t r → s.top = t ∧ r = s.flO ∧ 0 ≤ t ∧ t < s.size
  po5c  : ∀ t r, s.opc = .po5c t r → s.top = t ∧ r = s.flO
  po5d  : ∀ r, s.opc = .po5d r → r = s.flO
  po6   : ∀ r, s.opc = .po6 r → r = s.flO
  po7   : s.opc = .po7 → s.lt = s.lb
  po8   : s.opc = .po8 → s.lt = s.lb ∧ s.lb = s.size / 2
  -- put
  pt2   : ∀ e, s.opc = .pt2 e → s.base = 0
  pt3   : ∀ e off, s.opc = .pt3 e off → s.base = 0 ∧ 0 < off ∧ s.top + off ≤ s.size
  pt4   : ∀ e off, s.opc = .pt4 e off → s.lt = s.top + off ∧ s.lb = s.base + off ∧ s.base = 0 ∧ 0 < off
  pt5   : ∀ e off, s.opc = .pt5 e off → s.lb = s.base + off ∧ s.base = 0 ∧ 0 < off
  pt7   : ∀ e b, s.opc = .pt7 e b → s.base = b ∧ 0 < b
  pt8   : ∀ e b, s.opc = .pt8 e b → s.base = b ∧ 0 < b ∧ s.ptr (b - 1) = some e
  -- clear
  cl2   : s.opc = .cl2 → s.lb = s.base ∧ s.lt = s.base
  -- take
  tk2   : ∀ p b, s.tpc p = .tk2 b → s.lb = b
  tk5   : ∀ p b, s.tpc p = .tk5 b → s.lb = b
  tk3   : ∀ p b x, s.tpc p = .tk3 b x → s.lb = b + 1 ∧ s.ptr b = some x ∧ s.flT = some x ∧ 0 ≤ b ∧ b < s.size
  tk4   : ∀ p r, s.tpc p = .tk4 r → r = s.flT
  -- wsapi take
  wk2   : ∀ p b, s.tpc p = .wk2 b → s.lb = b
  wk3   : ∀ p b, s.tpc p = .wk3 b → s.lb = b ∧ b < s.lt
  wkd   : ∀ p b r, s.tpc p = .wkd b r → s.lb = b ∧ b < s.lt ∧ r = s.ptr b
  wk4   : ∀ p r, s.tpc p = .wk4 r → r = s.flT
  wk4u  : ∀ p r, s.tpc p = .wk4u r → r = s.flT
  wk5   : ∀ p b, s.tpc p = .wk5 b → s.lb = b
  -- trypass
  tp2   : ∀ p e b, s.tpc p = .tp2 e b → s.lb = b ∧ 0 < b
  tp3   : ∀ p e b, s.tpc p = .tp3 e b → s.lb = b ∧ 0 < b ∧ s.ptr (b - 1) = some e
  -- wsapi peek
  vk2   : ∀ p b, s.tpc p = .vk2 b → s.lb = b
  vk3   : ∀ p b, s.tpc p = .vk3 b → s.lb = b ∧ b < s.lt
  vk4   : ∀ p b r, s.tpc p = .vk4 b r → s.lb = b
  vk5   : ∀ p b, s.tpc p = .vk5 b → s.lb = b
  -- lock-free peek
  pk2   : ∀ p b, s.tpc p = .pk2 b → 0 ≤ b
  pk3   : ∀ p b, s.tpc p = .pk3 b → 0 ≤ b ∧ b < s.size

/-! Matcher auxiliary lemmas (`match_n.congr_eq_k`, `_sparseCasesOn_k`) are generated lazily by
    `simp`/`split`/`grind` at their first use.  Two modules that each need them and are later imported
    together would each generate their own copy, which clash; so they are forced into existence here,
    once: by the trivial lemmas below (each makes the automation touch one function) and by the loop
    over the matchers of the listed functions.  A function with a `match` added to the model joins that list. -/
section ForceAux
theorem aux_ownerLocked (pc : OPc) (h : ownerLocked pc = true) : ownerLocked pc = true := by
  simp only [ownerLocked] at *; split <;> simp_all
theorem aux_midPop (pc : OPc) (h : midPop pc = true) : midPop pc = true := by
  simp only [midPop] at *; split <;> simp_all
theorem aux_topSync (pc : OPc) (h : topSync pc = true) : topSync pc = true := by
  simp only [topSync] at *; split <;> simp_all
theorem aux_baseSync (pc : OPc) (h : baseSync pc = true) : baseSync pc = true := by
  simp only [baseSync] at *; split <;> simp_all
theorem aux_ownerFlight (pc : OPc) (h : ownerFlight pc = true) : ownerFlight pc = true := by
  simp only [ownerFlight] at *; split <;> simp_all
theorem aux_thiefLocked (pc : TPc) (h : thiefLocked pc = true) : thiefLocked pc = true := by
  simp only [thiefLocked] at *; split <;> simp_all
theorem aux_transient (pc : TPc) (h : transient pc = true) : transient pc = true := by
  simp only [transient] at *; split <;> simp_all
theorem aux_thiefFlight (pc : TPc) (h : thiefFlight pc = true) : thiefFlight pc = true := by
  simp only [thiefFlight] at *; split <;> simp_all
theorem aux_stepO (s s' : St) (h : stepO s = some s') (h0 : s.opc = .idle) : False := by
  simp only [stepO, h0] at h; simp at h
theorem aux_stepO2 (s s' : St) (h : stepO s = some s') (h0 : s.opc = .po9) : s'.opc = .idle := by
  simp only [stepO, h0] at h; simp at h; subst h; rfl
theorem aux_stepT (s s' : St) (p : Pid) (h : stepT s p = some s') (h0 : s.tpc p = .idle) : False := by
  simp only [stepT, h0] at h; simp at h
theorem aux_stepT2 (s s' : St) (p : Pid) (h : stepT s p = some s') (h0 : s.tpc p = .vr) : s'.lock = s.lock := by
  simp only [stepT, h0] at h; simp at h; subst h; rfl
theorem aux_stepD (s s' : St) (p : Pid) (a : Bool) (h : stepD s p a = some s') (h0 : s.tpc p = .idle) : False := by
  simp only [stepD, h0] at h; simp at h
theorem aux_stepD2 (s s' : St) (p : Pid) (a : Bool) (h : stepD s p a = some s') : ∃ b r, s.tpc p = .wkd b r := by
  simp only [stepD] at h
  split at h
  · exact ⟨_, _, by assumption⟩
  · simp at h
theorem aux_callO (s s' : St) (pc : OPc) (h : callO s pc = some s') : s.opc = .idle := by
  simp only [callO] at h
  split at h
  · assumption
  · simp at h
theorem aux_callT (s s' : St) (p : Pid) (pc : TPc) (h : callT s p pc = some s') : s.tpc p = .idle := by
  simp only [callT] at h
  split at h
  · assumption
  · simp at h
theorem aux_g_ownerLocked (pc : OPc) (h : ownerLocked pc = true) (h2 : pc = .idle) : False := by
  simp only [ownerLocked] at h; grind
theorem aux_g_midPop (pc : OPc) (h : midPop pc = true) (h2 : pc = .idle) : False := by
  simp only [midPop] at h; grind
theorem aux_g_ownerFlight (pc : OPc) (h : ownerFlight pc = true) (h2 : pc = .idle) : False := by
  simp only [ownerFlight] at h; grind
theorem aux_g_thiefLocked (pc : TPc) (h : thiefLocked pc = true) (h2 : pc = .idle) : False := by
  simp only [thiefLocked] at h; grind
theorem aux_g_transient (pc : TPc) (h : transient pc = true) (h2 : pc = .idle) : False := by
  simp only [transient] at h; grind
theorem aux_g_thiefFlight (pc : TPc) (h : thiefFlight pc = true) (h2 : pc = .idle) : False := by
  simp only [thiefFlight] at h; grind
theorem aux_g_topSync (pc : OPc) (h : topSync pc = false) (h2 : pc = .idle) : False := by
  simp only [topSync] at h; grind
theorem aux_g_baseSync (pc : OPc) (h : baseSync pc = false) (h2 : pc = .idle) : False := by
  simp only [baseSync] at h; grind
theorem aux_g_stepO (s s' : St) (h : stepO s = some s') (h0 : s.opc = .idle) : False := by
  simp only [stepO] at h; grind
theorem aux_g_stepT (s s' : St) (p : Pid) (h : stepT s p = some s') (h0 : s.tpc p = .idle) : False := by
  simp only [stepT] at h; grind
open Lean Meta in
run_meta do
  let env ← getEnv
  for f in [``ownerLocked, ``midPop, ``topSync, ``baseSync, ``ownerFlight, ``thiefLocked, ``transient, ``thiefFlight,
            ``stepO, ``stepT, ``stepD, ``callO, ``callT, ``retOpt, ``step] do
    for i in [1, 2, 3, 4, 5, 6, 7, 8] do
      let n := f ++ (Name.mkSimple s!"match_{i}")
      if env.contains n then
        discard <| Match.genMatchCongrEqns n
end ForceAux

end MythVerif.Wsq
