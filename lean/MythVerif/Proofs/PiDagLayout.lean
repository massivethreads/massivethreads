import MythVerif.Proofs.PiDagBasic
/-! `dr_pi_dag_enum_nodes`: every materialised node gets exactly one slot of `T`, and processing a node
never changes the `info` of a slot that already exists.  The layout it gives an in-memory DAG inside
`T`: a node at slot `idx` whose proper descendants occupy `[base, base + descT d)`; the children of a
section / task are the first `length` of these slots, the subgraphs below the children follow in order. -/
namespace MythVerif.PiDag
open MythVerif.DagRec

/-! ### one slot per node -/

mutual
/-- number of proper descendants of an in-memory node -/
def descT : DNode → Nat
  | .ival _ => 0
  | .create _ ch => 1 + descT ch
  | .group _ ds => descL ds
def descL : DList → Nat
  | .nil => 0
  | .cons d r => 1 + descT d + descL r
end

mutual
theorem count_eq_desc : ∀ d : DNode, d.count = 1 + descT d
  | .ival _ => rfl
  | .create _ ch => by simp [DNode.count, descT, count_eq_desc ch]
  | .group _ ds => by simp [DNode.count, descT, countL_eq_desc ds]
theorem countL_eq_desc : ∀ ds : DList, ds.count = descL ds
  | .nil => rfl
  | .cons d r => by simp [DList.count, descL, count_eq_desc d, countL_eq_desc r]
end

/-- slots below `n` keep their `info` -/
def KeepInfo (n : Nat) (T T' : Array PNode) : Prop :=
  n ≤ T'.size ∧ ∀ j, j < n → T'[j]!.info = T[j]!.info

theorem KeepInfo.refl' (T : Array PNode) : KeepInfo T.size T T := ⟨Nat.le_refl _, fun _ _ => rfl⟩

theorem KeepInfo.trans' {n m : Nat} {T T' T'' : Array PNode} (h1 : KeepInfo n T T') (h2 : KeepInfo m T' T'')
    (hnm : n ≤ m) : KeepInfo n T T'' :=
  ⟨Nat.le_trans hnm h2.1, fun j hj => by rw [h2.2 j (by omega), h1.2 j hj]⟩

theorem pushAll_spec (sc : Nat) : ∀ (ds : DList) (s : FlatSt),
    (pushAll sc ds s).T.size = s.T.size + ds.length ∧ KeepInfo s.T.size s.T (pushAll sc ds s).T
  | .nil, s => by simp [pushAll, DList.length]; exact KeepInfo.refl' _
  | .cons d r, s => by
    simp only [pushAll, DList.length]
    have ih := pushAll_spec sc r { T := s.T.push (copyNode sc s.st d.info).1, st := (copyNode sc s.st d.info).2 }
    simp only [Array.size_push] at ih
    refine ⟨by rw [ih.1]; omega, ?_⟩
    refine ⟨by rw [ih.1]; omega, fun j hj => ?_⟩
    rw [ih.2.2 j (by omega), push_get_lt _ _ _ hj]

mutual
theorem flatNode_spec (sc : Nat) : ∀ (d : DNode) (idx : Nat) (s : FlatSt),
    (flatNode sc d idx s).T.size = s.T.size + descT d ∧ KeepInfo s.T.size s.T (flatNode sc d idx s).T
  | .ival _, idx, s => by simp [flatNode, descT]; exact KeepInfo.refl' _
  | .create i ch, idx, s => by
    simp only [flatNode, descT]
    have ih := flatNode_spec sc ch s.T.size
      { T := (s.T.push (copyNode sc s.st ch.info).1).modify idx (fun x => { x with a := s.T.size - idx }),
        st := (copyNode sc s.st ch.info).2 }
    simp only [Array.size_modify, Array.size_push] at ih
    refine ⟨by rw [ih.1]; omega, ?_⟩
    refine ⟨by rw [ih.1]; omega, fun j hj => ?_⟩
    have hm := modify_info (s.T.push (copyNode sc s.st ch.info).1) idx j
      (fun x => { x with a := s.T.size - idx }) (fun _ => rfl)
    rw [ih.2.2 j (by omega), hm, push_get_lt _ _ _ hj]
  | .group i ds, idx, s => by
    simp only [flatNode, descT]
    have hp := pushAll_spec sc ds s
    have ih := flatList_spec sc ds s.T.size
      { T := (pushAll sc ds s).T.modify idx (fun x => { x with a := s.T.size - idx, b := (pushAll sc ds s).T.size - idx }),
        st := (pushAll sc ds s).st }
    simp only [Array.size_modify] at ih
    have h1 := ih.1.1
    have h2 := ih.1.2
    have h3 := hp.1
    refine ⟨by omega, ?_⟩
    refine ⟨by omega, fun j hj => ?_⟩
    have hm := modify_info (pushAll sc ds s).T idx j
      (fun x => { x with a := s.T.size - idx, b := (pushAll sc ds s).T.size - idx }) (fun _ => rfl)
    rw [ih.2.2 j (by omega), hm, hp.2.2 j hj]
theorem flatList_spec (sc : Nat) : ∀ (ds : DList) (k : Nat) (s : FlatSt),
    ((flatList sc ds k s).T.size + ds.length = s.T.size + descL ds ∧ ds.length ≤ descL ds) ∧
      KeepInfo s.T.size s.T (flatList sc ds k s).T
  | .nil, k, s => by simp [flatList, descL, DList.length]; exact KeepInfo.refl' _
  | .cons d r, k, s => by
    simp only [flatList, descL, DList.length]
    have h1 := flatNode_spec sc d k s
    have h2 := flatList_spec sc r (k + 1) (flatNode sc d k s)
    refine ⟨⟨by have := h2.1.1; rw [h1.1] at this; omega, by have := h2.1.2; omega⟩, ?_⟩
    exact KeepInfo.trans' h1.2 h2.2 (by rw [h1.1]; omega)
end

theorem setEdgePtrs_spec (T : Array PNode) (E : List PEdge) :
    (setEdgePtrs T E).size = T.size ∧ ∀ j : Nat, (setEdgePtrs T E)[j]!.info = T[j]!.info := by
  refine ⟨by simp [setEdgePtrs], fun j => ?_⟩
  by_cases hj : j < T.size
  · rw [getElem!_pos _ j (by simpa [setEdgePtrs] using hj), getElem!_pos _ j hj]
    simp [setEdgePtrs]
  · have h1 : (setEdgePtrs T E)[j]! = default := by apply getElem!_neg; simpa [setEdgePtrs] using hj
    have h2 : T[j]! = default := by apply getElem!_neg; exact hj
    rw [h1, h2]

/-- every materialised node gets exactly one slot, and slot 0 is the copy of the root -/
theorem flatten_spec (sc nw : Nat) (d : DNode) :
    (flatten sc nw d).T.size = d.count ∧ (flatten sc nw d).T[0]!.info = (copyNode sc [] d.info).1.info := by
  unfold flatten finishDag enumNodes
  simp only
  have h := flatNode_spec sc d 0 { T := #[(copyNode sc [] d.info).1], st := (copyNode sc [] d.info).2 }
  have hs := setEdgePtrs_spec (flatNode sc d 0 { T := #[(copyNode sc [] d.info).1], st := (copyNode sc [] d.info).2 }).T
    (sortEdges (enumEdges (flatNode sc d 0 { T := #[(copyNode sc [] d.info).1], st := (copyNode sc [] d.info).2 }).T))
  refine ⟨by rw [hs.1, h.1, count_eq_desc]; simp <;> omega, ?_⟩
  rw [hs.2 0, h.2.2 0 (by simp)]
  simp

/-! ### the layout -/

mutual
/-- node `d` sits at slot `idx`, its proper descendants in `[base, base + descT d)` -/
def LayN (T : Array PNode) : DNode → Nat → Nat → Prop
  | .ival i, idx, _ => T[idx]!.info.c.kind = i.c.kind
  | .create i ch, idx, base =>
    T[idx]!.info.c.kind = i.c.kind ∧ idx + T[idx]!.a = base ∧ idx < base ∧ LayN T ch base (base + 1)
  | .group i ds, idx, base =>
    T[idx]!.info.c.kind = i.c.kind ∧ T[idx]!.b = T[idx]!.a + ds.length ∧
      (0 < ds.length → idx + T[idx]!.a = base ∧ idx < base) ∧ LayL T ds base (base + ds.length)
/-- the nodes of `ds` sit at slots `k, k+1, …`, their proper descendants from `base` on -/
def LayL (T : Array PNode) : DList → Nat → Nat → Prop
  | .nil, _, _ => True
  | .cons d r, k, base => LayN T d k base ∧ LayL T r (k + 1) (base + descT d)
end

/-- sum of the numbers of proper descendants of the members of a list -/
def descS : DList → Nat
  | .nil => 0
  | .cons d r => descT d + descS r

theorem descL_eq : ∀ ds : DList, descL ds = ds.length + descS ds
  | .nil => rfl
  | .cons d r => by simp only [descL, descS, DList.length, descL_eq r]; omega

/-- the layout only looks at `info`, `a`, `b` -/
def SameShape (x y : PNode) : Prop := x.info = y.info ∧ x.a = y.a ∧ x.b = y.b

mutual
theorem LayN_congr' (T T' : Array PNode) : ∀ (d : DNode) (idx base : Nat),
    (∀ j, j = idx ∨ (base ≤ j ∧ j < base + descT d) → SameShape T'[j]! T[j]!) → LayN T d idx base → LayN T' d idx base
  | .ival i, idx, base, h, hl => by
    simp only [LayN] at hl ⊢
    rw [(h idx (Or.inl rfl)).1]; exact hl
  | .create i ch, idx, base, h, hl => by
    simp only [LayN, descT] at hl h ⊢
    rw [(h idx (Or.inl rfl)).1, (h idx (Or.inl rfl)).2.1]
    refine ⟨hl.1, hl.2.1, hl.2.2.1, ?_⟩
    exact LayN_congr' T T' ch base (base + 1) (fun j hj => h j (by omega)) hl.2.2.2
  | .group i ds, idx, base, h, hl => by
    simp only [LayN, descT] at hl h ⊢
    rw [(h idx (Or.inl rfl)).1, (h idx (Or.inl rfl)).2.1, (h idx (Or.inl rfl)).2.2]
    refine ⟨hl.1, hl.2.1, hl.2.2.1, ?_⟩
    have := descL_eq ds
    exact LayL_congr' T T' ds base (base + ds.length) (fun j hj => h j (by omega)) hl.2.2.2
theorem LayL_congr' (T T' : Array PNode) : ∀ (ds : DList) (k base : Nat),
    (∀ j, (k ≤ j ∧ j < k + ds.length) ∨ (base ≤ j ∧ j < base + descS ds) → SameShape T'[j]! T[j]!) →
    LayL T ds k base → LayL T' ds k base
  | .nil, _, _, _, _ => trivial
  | .cons d r, k, base, h, hl => by
    simp only [LayL, descS, DList.length] at hl h ⊢
    exact ⟨LayN_congr' T T' d k base (fun j hj => h j (by omega)) hl.1,
      LayL_congr' T T' r (k + 1) (base + descT d) (fun j hj => h j (by omega)) hl.2⟩
end

theorem LayN_congr (T T' : Array PNode) (d : DNode) (idx base : Nat)
    (h : ∀ j, j = idx ∨ (base ≤ j ∧ j < base + descT d) → T'[j]! = T[j]!) (hl : LayN T d idx base) : LayN T' d idx base :=
  LayN_congr' T T' d idx base (fun j hj => by rw [h j hj]; exact ⟨rfl, rfl, rfl⟩) hl

/-- the slots `k, k+1, …` hold copies of the members of `ds` -/
def KindsAt (T : Array PNode) : DList → Nat → Prop
  | .nil, _ => True
  | .cons d r, k => T[k]!.info.c.kind = d.info.c.kind ∧ KindsAt T r (k + 1)

theorem KindsAt_congr (T T' : Array PNode) : ∀ (ds : DList) (k : Nat),
    (∀ j, k ≤ j ∧ j < k + ds.length → T'[j]!.info = T[j]!.info) → KindsAt T ds k → KindsAt T' ds k
  | .nil, _, _, _ => trivial
  | .cons d r, k, h, hk => by
    simp only [KindsAt, DList.length] at hk h ⊢
    rw [h k (by omega)]
    exact ⟨hk.1, KindsAt_congr T T' r (k + 1) (fun j hj => h j (by omega)) hk.2⟩

/-- slots below `n` outside `[lo, hi)` are untouched -/
def Unch (lo hi n : Nat) (T T' : Array PNode) : Prop :=
  ∀ j, j < n → ¬(lo ≤ j ∧ j < hi) → T'[j]! = T[j]!

theorem copyNode_kind (sc : Nat) (st : List Nat) (i : Info) : (copyNode sc st i).1.info.c.kind = i.c.kind := rfl

theorem pushAll_lay (sc : Nat) : ∀ (ds : DList) (s : FlatSt),
    Unch 0 0 s.T.size s.T (pushAll sc ds s).T ∧ KindsAt (pushAll sc ds s).T ds s.T.size
  | .nil, s => ⟨fun _ _ _ => rfl, trivial⟩
  | .cons d r, s => by
    simp only [pushAll, KindsAt]
    have ih := pushAll_lay sc r { T := s.T.push (copyNode sc s.st d.info).1, st := (copyNode sc s.st d.info).2 }
    simp only [Array.size_push] at ih
    refine ⟨fun j hj _ => ?_, ?_, ih.2⟩
    · rw [ih.1 j (by omega) (by omega), push_get_lt _ _ _ hj]
    · rw [ih.1 s.T.size (by omega) (by omega), push_get_eq]; rfl

mutual
theorem flatNode_lay (sc : Nat) : ∀ (d : DNode) (idx : Nat) (s : FlatSt), idx < s.T.size →
    s.T[idx]!.info.c.kind = d.info.c.kind →
    LayN (flatNode sc d idx s).T d idx s.T.size ∧ Unch idx (idx + 1) s.T.size s.T (flatNode sc d idx s).T
  | .ival _, idx, s, _, hk => ⟨by simpa [flatNode, LayN, DNode.info] using hk, fun _ _ _ => rfl⟩
  | .create i ch, idx, s, hi, hk => by
    simp only [flatNode]
    have ih := flatNode_lay sc ch s.T.size
      { T := (s.T.push (copyNode sc s.st ch.info).1).modify idx (fun x => { x with a := s.T.size - idx }),
        st := (copyNode sc s.st ch.info).2 } (by simp) (by
          simp only
          rw [modify_get_ne _ _ _ _ (by omega), push_get_eq]; rfl)
    simp only [Array.size_modify, Array.size_push] at ih
    have hidx := ih.2 idx (by omega) (by omega)
    rw [modify_get!, if_pos ⟨rfl, by simp; omega⟩, push_get_lt _ _ _ hi] at hidx
    refine ⟨?_, fun j hj hne => ?_⟩
    · simp only [LayN]
      rw [hidx]
      exact ⟨hk, by simp; omega, hi, ih.1⟩
    · rw [ih.2 j (by omega) (by omega), modify_get_ne _ _ _ _ (by omega), push_get_lt _ _ _ hj]
  | .group i ds, idx, s, hi, hk => by
    simp only [flatNode]
    have hp := pushAll_lay sc ds s
    have hps := (pushAll_spec sc ds s).1
    have hinfo := (pushAll_spec sc ds s).2
    have ih := flatList_lay sc ds s.T.size
      { T := (pushAll sc ds s).T.modify idx (fun x => { x with a := s.T.size - idx, b := (pushAll sc ds s).T.size - idx }),
        st := (pushAll sc ds s).st } (by simp; omega)
      (KindsAt_congr _ _ ds _ (fun j _ => modify_info _ _ _ _ (fun _ => rfl)) hp.2)
    simp only [Array.size_modify] at ih
    rw [hps] at ih ⊢
    have hidx := ih.2 idx (by omega) (by omega)
    rw [modify_get!, if_pos ⟨rfl, by omega⟩, hp.1 idx hi (by omega)] at hidx
    refine ⟨?_, fun j hj hne => ?_⟩
    · simp only [LayN]
      rw [hidx]
      exact ⟨hk, by simp; omega, fun _ => ⟨by simp; omega, hi⟩, ih.1⟩
    · rw [ih.2 j (by omega) (by omega), modify_get_ne _ _ _ _ (by omega), hp.1 j hj (by omega)]
theorem flatList_lay (sc : Nat) : ∀ (ds : DList) (k : Nat) (s : FlatSt), k + ds.length ≤ s.T.size →
    KindsAt s.T ds k →
    LayL (flatList sc ds k s).T ds k s.T.size ∧ Unch k (k + ds.length) s.T.size s.T (flatList sc ds k s).T
  | .nil, _, s, _, _ => ⟨trivial, fun _ _ _ => rfl⟩
  | .cons d r, k, s, hi, hk => by
    simp only [flatList, LayL, DList.length, KindsAt] at hi hk ⊢
    have h1 := flatNode_lay sc d k s (by omega) hk.1
    have hs1 := (flatNode_spec sc d k s).1
    have hinfo := (flatNode_spec sc d k s).2
    have h2 := flatList_lay sc r (k + 1) (flatNode sc d k s) (by omega)
      (KindsAt_congr _ _ r _ (fun j hj => hinfo.2 j (by omega)) hk.2)
    rw [hs1] at h2
    refine ⟨⟨?_, h2.1⟩, fun j hj hne => ?_⟩
    · exact LayN_congr _ _ d k s.T.size (fun j hj => h2.2 j (by omega) (by omega)) h1.1
    · rw [h2.2 j (by omega) (by omega), h1.2 j hj (by omega)]
end

/-- the node array `dr_pi_dag_enum_nodes` produces is the layout of `d` with the root in slot 0 -/
theorem enumNodes_lay (sc : Nat) (d : DNode) :
    LayN (enumNodes sc d).T d 0 1 ∧ (enumNodes sc d).T.size = 1 + descT d := by
  unfold enumNodes
  have h := flatNode_lay sc d 0 { T := #[(copyNode sc [] d.info).1], st := (copyNode sc [] d.info).2 } (by simp)
    (by simp [copyNode_kind])
  have hs := (flatNode_spec sc d 0 { T := #[(copyNode sc [] d.info).1], st := (copyNode sc [] d.info).2 }).1
  exact ⟨by simpa using h.1, by simpa using hs⟩

end MythVerif.PiDag
