import MythVerif.Model.CpuList
/-! Lemmas about the `MYTH_CPU_LIST` parser model (C15): no abort / no overrun / bounded output for
    every input, exact result on the grammar, error outside it. -/
namespace MythVerif.CpuList
open MythVerif.Env

theorem nul_ne_newline : nul ≠ '\n' := by decide

/-- `next_char` on a character that is neither NUL nor (under the assertion) a newline -/
theorem next_ok (chk : Bool) (s : Stream) (c : Char) (cs : CStr) (hr : s.rest = c :: cs)
    (h0 : c ≠ nul) (hn : chk = false ∨ c ≠ '\n') :
    next chk s = .ok { rest := cs, i := s.i + 1, ok := s.ok } := by
  unfold next
  rw [hr]
  simp only [h0, if_false]
  cases hn with
  | inl h => simp [h]
  | inr h => simp [h]

theorem cur_cons (s : Stream) (c : Char) (h : cur s = c) (h0 : c ≠ nul) :
    ∃ cs, s.rest = c :: cs := by
  unfold cur at h
  cases hr : s.rest with
  | nil => rw [hr] at h; simp at h; exact absurd h.symm h0
  | cons d ds => rw [hr] at h; simp at h; exact ⟨ds, by rw [h]⟩

theorem next_false_ne_abort (s : Stream) : next false s ≠ .abort := by
  unfold next
  split
  · simp
  · split
    · simp
    · simp

/-! ### safety: never `.abort` without the assertion, never `.overrun`, bounded output -/

theorem digitsLoop_false (ok : Nat) : ∀ (l : CStr) (i : Nat) (x : Int) (nd : Nat),
    digitsLoop false ok l i x nd ≠ none := by
  intro l
  induction l with
  | nil => intro i x nd; simp [digitsLoop]
  | cons c cs ih =>
    intro i x nd
    simp only [digitsLoop]
    split
    · simp only [Bool.false_and, Bool.false_eq_true, if_false]; exact ih _ _ _
    · simp

theorem parseInt_false_ne_abort (s : Stream) : parseInt false s ≠ .abort := by
  unfold parseInt
  split
  · rename_i h; exact absurd h (digitsLoop_false _ _ _ _ _)
  · split
    · simp
    · split <;> simp

theorem parseInt_ne_overrun (chk : Bool) (s : Stream) : parseInt chk s ≠ .overrun := by
  unfold parseInt
  split
  · simp
  · split
    · simp
    · split <;> simp

theorem minus_ne_nul : '-' ≠ nul := by decide
theorem colon_ne_nul : ':' ≠ nul := by decide
theorem comma_ne_nul : ',' ≠ nul := by decide
theorem minus_ne_nl : '-' ≠ '\n' := by decide
theorem colon_ne_nl : ':' ≠ '\n' := by decide
theorem comma_ne_nl : ',' ≠ '\n' := by decide

/-- `next_char` right after seeing one of the separators `-` `:` `,` always succeeds -/
theorem next_sep (chk : Bool) (s : Stream) (c : Char) (h : cur s = c) (h0 : c ≠ nul) (hn : c ≠ '\n') :
    ∃ cs, s.rest = c :: cs ∧ next chk s = .ok { rest := cs, i := s.i + 1, ok := s.ok } := by
  obtain ⟨cs, hr⟩ := cur_cons s c h h0
  exact ⟨cs, hr, next_ok chk s c cs hr h0 (Or.inr hn)⟩

inductive TailR.Safe : TailR → Prop
  | ok (s b c) : TailR.Safe (.ok s b c)
  | ng (d) : TailR.Safe (.ng d)

theorem parseTail_safe (s : Stream) (a : Int) : TailR.Safe (parseTail false s a) := by
  unfold parseTail
  split
  · rename_i h1
    obtain ⟨cs, _, hn⟩ := next_sep false s '-' h1 minus_ne_nul minus_ne_nl
    rw [hn]
    simp only []
    split
    · rename_i h; exact absurd h (parseInt_false_ne_abort _)
    · rename_i h; exact absurd h (parseInt_ne_overrun _ _)
    · exact .ng _
    · rename_i s3 b h3
      split
      · rename_i h4
        obtain ⟨cs', _, hn'⟩ := next_sep false s3 ':' h4 colon_ne_nul colon_ne_nl
        rw [hn']
        simp only []
        split
        · rename_i h; exact absurd h (parseInt_false_ne_abort _)
        · rename_i h; exact absurd h (parseInt_ne_overrun _ _)
        · exact .ng _
        · exact .ok _ _ _
      · exact .ok _ _ _
  · exact .ok _ _ _

/-! ### the comma loop, case by case -/

/-- at a comma: the comma is consumed, a range parsed, and the loop goes on after it -/
theorem rangeLoop_comma (chk : Bool) (cap : Nat) (s : Stream) (out : List Int) (cs : CStr)
    (h : s.rest = ',' :: cs) :
    rangeLoop chk cap s out =
      match parseRange chk cap { rest := cs, i := s.i + 1, ok := s.ok } out with
      | .ok s2 out2 => rangeLoop chk cap (setOk s2) out2
      | r => r := by
  have hnx := next_ok chk s ',' cs h comma_ne_nul (Or.inr comma_ne_nl)
  rw [rangeLoop, if_pos (by simp [cur, h])]
  split
  · rename_i h'; rw [hnx] at h'; cases h'
  · rename_i h'; rw [hnx] at h'; cases h'
  · rename_i s1 h'
    rw [hnx] at h'; cases h'
    split <;> rename_i h2 <;> simp only [h2]

/-- at the end of the string (or an embedded NUL) -/
theorem rangeLoop_end (chk : Bool) (cap : Nat) (s : Stream) (out : List Int) (h : cur s = nul) :
    rangeLoop chk cap s out = .ok s out := by
  have h1 : ¬ nul = ',' := fun h => comma_ne_nul h.symm
  rw [rangeLoop]
  simp only [h, h1, if_false, ne_eq, not_true_eq_false]

/-- at a character that is neither a comma nor NUL: junk (the pinned assertion fires if it is a
    newline) -/
theorem rangeLoop_junk (chk : Bool) (cap : Nat) (s : Stream) (out : List Int) (c : Char) (t : CStr)
    (h : s.rest = c :: t) (h1 : c ≠ ',') (h0 : c ≠ nul) :
    rangeLoop chk cap s out =
      if chk && c = '\n' then .abort
      else .ng (some { kind := .junk, okPos := s.ok, pos := s.i + 1 }) out := by
  have hc : cur s = c := by simp [cur, h]
  rw [rangeLoop]
  simp only [hc, h1, if_false, ne_eq, h0, not_false_eq_true, if_true]
  unfold next
  rw [h]
  simp only [h0, if_false]
  by_cases hq : (chk && decide (c = '\n')) = true
  · simp [hq]
  · simp [hq]

theorem fill_len (b c : Int) : ∀ (room : Nat) (x : Int) (out : List Int),
    (fill b c room x out).2.length ≤ out.length + room := by
  intro room
  induction room with
  | zero => intro x out; simp only [fill]; split <;> simp
  | succ r ih =>
    intro x out
    simp only [fill]
    split
    · have := ih (wrap32 (x + c)) (out ++ [x]); simp at this; omega
    · simp

/-- the entries already written are never touched again: `int_list_add` only appends -/
theorem fill_prefix (b c : Int) : ∀ (room : Nat) (x : Int) (out : List Int),
    out <+: (fill b c room x out).2 := by
  intro room
  induction room with
  | zero => intro x out; simp only [fill]; split <;> exact List.prefix_refl _
  | succ r ih =>
    intro x out
    simp only [fill]
    split
    · exact List.IsPrefix.trans (List.prefix_append out [x]) (ih _ _)
    · exact List.prefix_refl _

/-- result of a parse step that is neither an assertion failure nor a read past the NUL, and
    whose output list stays within the capacity and extends the previous one -/
inductive R.Safe (cap : Nat) (out0 : List Int) : R → Prop
  | ok (s out) (hl : out.length ≤ cap) (hp : out0 <+: out) : R.Safe cap out0 (.ok s out)
  | ng (d out) (hl : out.length ≤ cap) (hp : out0 <+: out) : R.Safe cap out0 (.ng d out)

theorem R.Safe.weaken {cap : Nat} {o0 o1 : List Int} {r : R} (h : R.Safe cap o1 r) (hp : o0 <+: o1) :
    R.Safe cap o0 r := by
  cases h with
  | ok s out hl hp' => exact .ok s out hl (List.IsPrefix.trans hp hp')
  | ng d out hl hp' => exact .ng d out hl (List.IsPrefix.trans hp hp')

theorem parseRange_safe (cap : Nat) (s : Stream) (out : List Int) (ho : out.length ≤ cap) :
    R.Safe cap out (parseRange false cap s out) := by
  unfold parseRange
  split
  · rename_i h; exact absurd h (parseInt_false_ne_abort _)
  · rename_i h; exact absurd h (parseInt_ne_overrun _ _)
  · exact .ng _ _ ho (List.prefix_refl _)
  · rename_i s1 a h1
    have ht := parseTail_safe s1 a
    split
    · rename_i h; rw [h] at ht; cases ht
    · rename_i h; rw [h] at ht; cases ht
    · exact .ng _ _ ho (List.prefix_refl _)
    · rename_i s' b c h2
      have hl := fill_len b c (cap - out.length) a out
      have hp := fill_prefix b c (cap - out.length) a out
      split
      · rename_i out' hf; rw [hf] at hl hp; exact .ok _ _ (by simp at hl; omega) hp
      · rename_i out' hf; rw [hf] at hl hp; exact .ng _ _ (by simp at hl; omega) hp

theorem rangeLoop_safe (cap : Nat) : ∀ (n : Nat) (s : Stream) (out : List Int),
    s.rest.length ≤ n → out.length ≤ cap → R.Safe cap out (rangeLoop false cap s out) := by
  intro n
  induction n with
  | zero =>
    intro s out hn ho
    have hr : s.rest = [] := List.length_eq_zero_iff.mp (Nat.le_zero.mp hn)
    rw [rangeLoop_end false cap s out (by simp [cur, hr])]
    exact .ok _ _ ho (List.prefix_refl _)
  | succ n ih =>
    intro s out hn ho
    cases hr : s.rest with
    | nil => rw [rangeLoop_end false cap s out (by simp [cur, hr])]; exact .ok _ _ ho (List.prefix_refl _)
    | cons c cs =>
      by_cases h1 : c = ','
      · subst h1
        rw [rangeLoop_comma false cap s out cs hr]
        have hs := parseRange_safe cap { rest := cs, i := s.i + 1, ok := s.ok } out ho
        split
        · rename_i s2 out2 hr2
          rw [hr2] at hs
          cases hs with
          | ok _ _ hl hp =>
            have hlen := parseRange_len false cap _ _ _ _ hr2
            have : (setOk s2).rest.length ≤ n := by
              simp only [setOk]; simp at hlen; rw [hr] at hn; simp at hn; omega
            exact (ih (setOk s2) out2 this hl).weaken hp
        · exact hs
      · by_cases h0 : c = nul
        · rw [rangeLoop_end false cap s out (by simp [cur, hr, h0])]; exact .ok _ _ ho (List.prefix_refl _)
        · rw [rangeLoop_junk false cap s out c cs hr h1 h0]
          exact .ng _ _ ho (List.prefix_refl _)

theorem parseRangeList_safe (cap : Nat) (s : Stream) :
    R.Safe cap [] (parseRangeList false cap s []) := by
  unfold parseRangeList
  have hs := parseRange_safe cap s [] (Nat.zero_le _)
  split
  · rename_i s1 out1 h1
    rw [h1] at hs
    cases hs with
    | ok _ _ hl hp => exact (rangeLoop_safe cap _ (setOk s1) out1 (Nat.le_refl _) hl).weaken hp
  · exact hs

/-! ### what a list of the grammar denotes, and the parser on such a list -/

/-- value of a number token -/
def numVal (ds : CStr) : Nat := digitsVal ds 0

/-- `,r1,r2,…` -/
def renderTail : List RangeS → CStr
  | [] => []
  | r :: rs => ',' :: (r.render ++ renderTail rs)

/-- `r0,r1,…` -/
def renderList (r0 : RangeS) (rs : List RangeS) : CStr := r0.render ++ renderTail rs

/-- `x, x+c, x+2c, …` below `b` (`fuel ≥ b - x` is enough when `c ≥ 1`) -/
def steps (c : Nat) : Nat → Nat → Nat → List Int
  | 0, _, _ => []
  | f + 1, x, b => if x < b then (x : Int) :: steps c f (x + c) b else []

/-- the CPUs a range denotes -/
def RangeS.cpus : RangeS → List Int
  | .single a => [(numVal a : Int)]
  | .span a b => steps 1 (numVal b - numVal a) (numVal a) (numVal b)
  | .stride a b c => steps (numVal c) (numVal b - numVal a) (numVal a) (numVal b)

/-- well-formed and within `int` arithmetic: no number reaches 2^31, the stride is positive and
    the last increment does not overflow -/
def RangeS.Valid : RangeS → Prop
  | .single a => Tok a ∧ numVal a + 1 < 2 ^ 31
  | .span a b => Tok a ∧ Tok b ∧ numVal a < 2 ^ 31 ∧ numVal b + 1 < 2 ^ 31
  | .stride a b c => Tok a ∧ Tok b ∧ Tok c ∧ numVal a < 2 ^ 31 ∧ 1 ≤ numVal c ∧ numVal b + numVal c < 2 ^ 31

def cpusOf (rs : List RangeS) : List Int := rs.flatMap RangeS.cpus

/-- membership in `steps`: exactly the `x + k*c` below `b` -/
theorem mem_steps (c : Nat) (hc : 1 ≤ c) : ∀ (f x b : Nat), b - x ≤ f → ∀ v : Int,
    v ∈ steps c f x b ↔ ∃ k : Nat, v = ((x + k * c : Nat) : Int) ∧ x + k * c < b := by
  intro f
  induction f with
  | zero =>
    intro x b hf v
    simp only [steps, List.not_mem_nil, false_iff]
    rintro ⟨k, _, hk⟩
    have : x ≤ x + k * c := Nat.le_add_right _ _
    omega
  | succ f ih =>
    intro x b hf v
    simp only [steps]
    split
    · rename_i hx
      simp only [List.mem_cons]
      rw [ih (x + c) b (by omega) v]
      constructor
      · rintro (h | ⟨k, hv, hk⟩)
        · exact ⟨0, by simp [h], by simpa using hx⟩
        · refine ⟨k + 1, ?_, ?_⟩
          · rw [hv]; congr 1; rw [Nat.add_mul]; omega
          · rw [Nat.add_mul]; omega
      · rintro ⟨k, hv, hk⟩
        cases k with
        | zero => left; simpa using hv
        | succ k =>
          right
          refine ⟨k, ?_, ?_⟩
          · rw [hv]; congr 1; rw [Nat.add_mul]; omega
          · rw [Nat.add_mul] at hk; omega
    · rename_i hx
      simp only [List.not_mem_nil, false_iff]
      rintro ⟨k, _, hk⟩
      have : x ≤ x + k * c := Nat.le_add_right _ _
      omega

theorem isDigit_ne_nl (c : Char) (h : isDigit c = true) : c ≠ '\n' := by
  intro hc; subst hc; revert h; decide

/-- the digit loop on a token followed by a non-digit, below 2^31: no wrap -/
theorem digitsLoop_tok (chk : Bool) (ok : Nat) (rest : CStr) (hr : NoDigitHead rest) :
    ∀ (ds : CStr) (i acc nd : Nat), AllDigits ds → digitsVal ds acc < 2 ^ 31 →
      digitsLoop chk ok (ds ++ rest) i (acc : Int) nd =
        some ({ rest := rest, i := i + ds.length, ok := ok }, (digitsVal ds acc : Int), nd + ds.length) := by
  intro ds
  induction ds with
  | nil =>
    intro i acc nd _ _
    cases rest with
    | nil => simp [digitsLoop, digitsVal]
    | cons c cs => have := hr c rfl; simp [digitsLoop, digitsVal, this]
  | cons d ds ih =>
    intro i acc nd hd hv
    have hd1 : isDigit d = true := hd d (by simp)
    have hd2 : AllDigits ds := fun c hc => hd c (by simp [hc])
    have hnl := isDigit_ne_nl d hd1
    simp only [digitsVal, hd1, if_true] at hv
    have hge := digitsVal_ge ds (acc * 10 + digitVal d)
    have hw : wrap32 ((acc : Int) * 10 + (digitVal d : Int)) = ((acc * 10 + digitVal d : Nat) : Int) := by
      rw [wrap32_id] <;> omega
    simp only [List.cons_append, digitsLoop, hd1, if_true, hnl, decide_false, Bool.and_false,
      Bool.false_eq_true, if_false, hw, digitsVal, List.length_cons]
    rw [ih (i + 1) (acc * 10 + digitVal d) (nd + 1) hd2 hv]
    simp only [Option.some.injEq, Prod.mk.injEq, Stream.mk.injEq, true_and, and_true]
    omega

theorem parseInt_tok (chk : Bool) (s : Stream) (ds rest : CStr) (hs : s.rest = ds ++ rest)
    (ht : Tok ds) (hr : NoDigitHead rest) (hv : numVal ds < 2 ^ 31) :
    parseInt chk s = .val { rest := rest, i := s.i + ds.length, ok := s.ok } (numVal ds) := by
  unfold parseInt
  rw [hs]
  have := digitsLoop_tok chk s.ok rest hr ds s.i 0 0 ht.2 hv
  simp only [Int.natCast_zero] at this
  rw [this]
  have hl : ds.length ≠ 0 := by
    intro h; exact ht.1 (List.length_eq_zero_iff.mp h)
  have h1 : ¬ (0 + ds.length = 0) := by omega
  have h2 : ¬ ((digitsVal ds 0 : Nat) : Int) = -1 := by omega
  simp only [h1, if_false, h2, numVal]

theorem fill_steps (c : Nat) (hc : 1 ≤ c) : ∀ (f x b room : Nat) (out : List Int),
    b - x ≤ f → b + c ≤ 2 ^ 31 → (steps c f x b).length ≤ room →
      fill (b : Int) (c : Int) room (x : Int) out = (true, out ++ steps c f x b) := by
  intro f
  induction f with
  | zero =>
    intro x b room out hf _ _
    have : ¬ ((x : Int) < (b : Int)) := by omega
    cases room <;> simp [fill, steps, this]
  | succ f ih =>
    intro x b room out hf hb hl
    simp only [steps] at hl ⊢
    by_cases hx : x < b
    · simp only [hx, if_true, List.length_cons] at hl ⊢
      cases room with
      | zero => omega
      | succ r =>
        have hx' : (x : Int) < (b : Int) := by omega
        have hw : wrap32 ((x : Int) + (c : Int)) = ((x + c : Nat) : Int) := by
          rw [wrap32_id] <;> omega
        simp only [fill, hx', if_true, hw]
        rw [ih (x + c) b r (out ++ [(x : Int)]) (by omega) hb (by omega)]
        simp
    · have hx' : ¬ ((x : Int) < (b : Int)) := by omega
      cases room <;> simp [fill, hx, hx']

/-- what may follow a range without being taken for a part of it: the end of the string, or
    any character that is not a digit, `-` or `:` (a comma in a well-formed list) -/
def SepHead (rest : CStr) : Prop :=
  ∀ c, rest.head? = some c → isDigit c = false ∧ c ≠ '-' ∧ c ≠ ':'

theorem SepHead.noDigit {rest : CStr} (h : SepHead rest) : NoDigitHead rest :=
  fun c hc => (h c hc).1

theorem SepHead.cur_ne {rest : CStr} (h : SepHead rest) (i ok : Nat) (c : Char) (hc : c ≠ nul)
    (hc2 : c = '-' ∨ c = ':') : cur { rest := rest, i := i, ok := ok } ≠ c := by
  cases rest with
  | nil => simp [cur]; exact fun h => hc h.symm
  | cons d t =>
    have := h d rfl
    simp [cur]
    rcases hc2 with h2 | h2 <;> subst h2
    · exact this.2.1
    · exact this.2.2

theorem sepHead_nil : SepHead [] := by intro c hc; simp at hc
theorem sepHead_comma (t : CStr) : SepHead (',' :: t) := by
  intro c hc; simp at hc; subst hc; decide

theorem parseTail_none (chk : Bool) (s : Stream) (a : Int) (h : cur s ≠ '-') :
    parseTail chk s a = .ok s (wrap32 (a + 1)) 1 := by
  unfold parseTail; simp [h]

theorem parseTail_span (chk : Bool) (s : Stream) (a : Int) (b rest : CStr)
    (hs : s.rest = '-' :: (b ++ rest)) (hb : Tok b) (hvb : numVal b < 2 ^ 31) (hr : SepHead rest) :
    parseTail chk s a = .ok { rest := rest, i := s.i + 1 + b.length, ok := s.ok } (numVal b) 1 := by
  unfold parseTail
  have hc : cur s = '-' := by simp [cur, hs]
  rw [next_ok chk s '-' (b ++ rest) hs minus_ne_nul (Or.inr minus_ne_nl)]
  simp only [hc, if_true]
  rw [parseInt_tok chk _ b rest rfl hb hr.noDigit hvb]
  simp only []
  have := hr.cur_ne (s.i + 1 + b.length) s.ok ':' colon_ne_nul (Or.inr rfl)
  simp [this]

theorem parseTail_stride (chk : Bool) (s : Stream) (a : Int) (b c rest : CStr)
    (hs : s.rest = '-' :: (b ++ ':' :: (c ++ rest))) (hb : Tok b) (hvb : numVal b < 2 ^ 31)
    (hc : Tok c) (hvc : numVal c < 2 ^ 31) (hr : SepHead rest) :
    parseTail chk s a =
      .ok { rest := rest, i := s.i + 1 + b.length + 1 + c.length, ok := s.ok } (numVal b) (numVal c) := by
  unfold parseTail
  have hcur : cur s = '-' := by simp [cur, hs]
  rw [next_ok chk s '-' (b ++ ':' :: (c ++ rest)) hs minus_ne_nul (Or.inr minus_ne_nl)]
  simp only [hcur, if_true]
  rw [parseInt_tok chk _ b (':' :: (c ++ rest)) rfl hb (noDigit_cons _ _ (by decide)) hvb]
  simp only []
  have hcur3 : cur { rest := ':' :: (c ++ rest), i := s.i + 1 + b.length, ok := s.ok } = ':' := by simp [cur]
  simp only [hcur3, if_true]
  rw [next_ok chk _ ':' (c ++ rest) rfl colon_ne_nul (Or.inr colon_ne_nl)]
  simp only []
  rw [parseInt_tok chk _ c rest rfl hc hr.noDigit hvc]

theorem steps_single (a : Nat) : steps 1 1 a (a + 1) = [(a : Int)] := by
  simp [steps]

/-- `parse_range` on a valid range of the grammar appends exactly the CPUs it denotes -/
theorem parseRange_valid (chk : Bool) (cap : Nat) (s : Stream) (out : List Int) (r : RangeS)
    (rest : CStr) (hs : s.rest = r.render ++ rest) (hv : r.Valid) (hr : SepHead rest)
    (hl : (out ++ r.cpus).length ≤ cap) :
    parseRange chk cap s out =
      .ok { rest := rest, i := s.i + r.render.length, ok := s.ok } (out ++ r.cpus) := by
  have hroom : ∀ l : List Int, (out ++ l).length ≤ cap → l.length ≤ cap - out.length := by
    intro l h; simp at h; omega
  cases r with
  | single a =>
    obtain ⟨ha, hva⟩ := hv
    simp only [RangeS.render] at hs
    unfold parseRange
    rw [parseInt_tok chk s a rest hs ha hr.noDigit (by omega)]
    simp only []
    rw [parseTail_none chk _ _ (hr.cur_ne _ _ '-' minus_ne_nul (Or.inl rfl))]
    simp only []
    have hw : wrap32 ((numVal a : Int) + 1) = ((numVal a + 1 : Nat) : Int) := by
      rw [wrap32_id] <;> omega
    have hf := fill_steps 1 (Nat.le_refl 1) 1 (numVal a) (numVal a + 1) (cap - out.length) out
      (by omega) (by omega) (by rw [steps_single]; exact hroom _ hl)
    rw [hw]
    simp only [Int.natCast_one] at hf
    rw [hf, steps_single]
    simp [RangeS.render, RangeS.cpus]
  | span a b =>
    obtain ⟨ha, hb, hva, hvb⟩ := hv
    simp only [RangeS.render, List.append_assoc, List.cons_append] at hs
    unfold parseRange
    rw [parseInt_tok chk s a ('-' :: (b ++ rest)) hs ha (noDigit_cons _ _ (by decide)) hva]
    simp only []
    rw [parseTail_span chk _ _ b rest rfl hb (by omega) hr]
    simp only []
    have hf := fill_steps 1 (Nat.le_refl 1) (numVal b - numVal a) (numVal a) (numVal b) (cap - out.length) out
      (Nat.le_refl _) (by omega) (hroom _ hl)
    simp only [Int.natCast_one] at hf
    rw [hf]
    simp [RangeS.render, RangeS.cpus]; omega
  | stride a b c =>
    obtain ⟨ha, hb, hc, hva, hc1, hvb⟩ := hv
    simp only [RangeS.render, List.append_assoc, List.cons_append] at hs
    unfold parseRange
    rw [parseInt_tok chk s a ('-' :: (b ++ ':' :: (c ++ rest))) hs ha (noDigit_cons _ _ (by decide)) hva]
    simp only []
    rw [parseTail_stride chk _ _ b c rest rfl hb (by omega) hc (by omega) hr]
    simp only []
    have hf := fill_steps (numVal c) hc1 (numVal b - numVal a) (numVal a) (numVal b) (cap - out.length) out
      (Nat.le_refl _) (by omega) (hroom _ hl)
    rw [hf]
    simp [RangeS.render, RangeS.cpus]; omega

theorem sepHead_renderTail (rs : List RangeS) (tail : CStr) (ht : SepHead tail) :
    SepHead (renderTail rs ++ tail) := by
  cases rs with
  | nil => simpa [renderTail] using ht
  | cons r rs => simp only [renderTail, List.cons_append]; exact sepHead_comma _

/-- the comma loop on `,r1,r2,…` followed by `tail` (which does not continue the list): the
    ranges are consumed and the loop goes on at `tail` -/
theorem rangeLoop_prefix (chk : Bool) (cap : Nat) (tail : CStr) (ht : SepHead tail) :
    ∀ (rs : List RangeS) (s : Stream) (out : List Int),
    s.rest = renderTail rs ++ tail → (∀ r ∈ rs, r.Valid) → (out ++ cpusOf rs).length ≤ cap →
      ∃ sT, sT.rest = tail ∧ rangeLoop chk cap s out = rangeLoop chk cap sT (out ++ cpusOf rs) := by
  intro rs
  induction rs with
  | nil =>
    intro s out hs _ _
    exact ⟨s, by simpa [renderTail] using hs, by simp [cpusOf]⟩
  | cons r rs ih =>
    intro s out hs hv hl
    simp only [renderTail, List.cons_append, List.append_assoc] at hs
    have hl1 : (out ++ r.cpus).length ≤ cap := by
      simp [cpusOf] at hl ⊢; omega
    have hpr := parseRange_valid chk cap { rest := r.render ++ (renderTail rs ++ tail), i := s.i + 1, ok := s.ok } out r
      (renderTail rs ++ tail) rfl (hv r (by simp)) (sepHead_renderTail rs tail ht) hl1
    obtain ⟨sT, hT, hrun⟩ := ih (setOk { rest := renderTail rs ++ tail, i := s.i + 1 + r.render.length, ok := s.ok }) (out ++ r.cpus)
      rfl (fun r' hr' => hv r' (by simp [hr'])) (by simp [cpusOf] at hl ⊢; omega)
    refine ⟨sT, hT, ?_⟩
    rw [rangeLoop_comma chk cap s out _ hs, hpr]
    simp only [hrun, cpusOf, List.flatMap_cons, List.append_assoc]

/-- `parse_range_list` on a list of the grammar followed by `tail` -/
theorem parseRangeList_prefix (chk : Bool) (cap : Nat) (tail : CStr) (ht : SepHead tail)
    (r0 : RangeS) (rs : List RangeS)
    (hv : ∀ r ∈ r0 :: rs, r.Valid) (hl : (cpusOf (r0 :: rs)).length ≤ cap) :
    ∃ sT, sT.rest = tail ∧
      parseRangeList chk cap { rest := renderList r0 rs ++ tail, i := 0, ok := 0 } [] =
        rangeLoop chk cap sT (cpusOf (r0 :: rs)) := by
  unfold parseRangeList
  have hl1 : (([] : List Int) ++ r0.cpus).length ≤ cap := by simp [cpusOf] at hl ⊢; omega
  have hpr := parseRange_valid chk cap { rest := renderList r0 rs ++ tail, i := 0, ok := 0 } [] r0
    (renderTail rs ++ tail) (by simp [renderList])
    (hv r0 (by simp)) (sepHead_renderTail rs tail ht) hl1
  rw [hpr]
  simp only []
  obtain ⟨sT, hT, hrun⟩ := rangeLoop_prefix chk cap tail ht rs
    (setOk { rest := renderTail rs ++ tail, i := 0 + r0.render.length, ok := 0 }) ([] ++ r0.cpus) rfl
    (fun r hr => hv r (by simp [hr])) (by simp [cpusOf] at hl ⊢; omega)
  exact ⟨sT, hT, by rw [hrun]; simp [cpusOf]⟩

/-- `parse_range_list` on a list of the grammar -/
theorem parseRangeList_valid (chk : Bool) (cap : Nat) (r0 : RangeS) (rs : List RangeS)
    (hv : ∀ r ∈ r0 :: rs, r.Valid) (hl : (cpusOf (r0 :: rs)).length ≤ cap) :
    ∃ s', parseRangeList chk cap { rest := renderList r0 rs, i := 0, ok := 0 } [] = .ok s' (cpusOf (r0 :: rs)) := by
  obtain ⟨sT, hT, hrun⟩ := parseRangeList_prefix chk cap [] sepHead_nil r0 rs hv hl
  simp only [List.append_nil] at hrun
  exact ⟨sT, by rw [hrun, rangeLoop_end chk cap sT _ (by simp [cur, hT])]⟩

/-! ### converse: whatever the parser accepts is a string of the grammar
    (one range: `parseRange_split` in `Model/CpuList.lean`) -/

theorem rangeLoop_split (chk : Bool) (cap : Nat) : ∀ (n : Nat) (s : Stream) (out : List Int)
    (s' : Stream) (out' : List Int), s.rest.length ≤ n → rangeLoop chk cap s out = .ok s' out' →
      ∃ rs : List RangeS, (∀ r ∈ rs, r.Syn) ∧ s.rest = renderTail rs ++ s'.rest ∧ cur s' = nul := by
  intro n
  induction n with
  | zero =>
    intro s out s' out' hn h
    have hr : s.rest = [] := List.length_eq_zero_iff.mp (Nat.le_zero.mp hn)
    have hc : cur s = nul := by simp [cur, hr]
    rw [rangeLoop_end chk cap s out hc] at h
    cases h
    exact ⟨[], by simp, by simp [renderTail], hc⟩
  | succ n ih =>
    intro s out s' out' hn h
    by_cases hc : cur s = nul
    · rw [rangeLoop_end chk cap s out hc] at h
      cases h
      exact ⟨[], by simp, by simp [renderTail], hc⟩
    · obtain ⟨cs, hr⟩ := cur_cons s (cur s) rfl hc
      by_cases h1 : cur s = ','
      · rw [h1] at hr
        rw [rangeLoop_comma chk cap s out cs hr] at h
        split at h
        · rename_i s2 out2 hpr
          obtain ⟨r, hsyn, hr2⟩ := parseRange_split chk cap _ _ _ _ hpr
          have hlen := parseRange_len chk cap _ _ _ _ hpr
          obtain ⟨rs, hrs, hr3, hcur⟩ := ih (setOk s2) out2 s' out'
            (by rw [hr] at hn; simp [setOk] at hn hlen ⊢; omega) h
          refine ⟨r :: rs, ?_, ?_, hcur⟩
          · intro r' hr'; simp at hr'; cases hr' with
            | inl h => subst h; exact hsyn
            | inr h => exact hrs r' h
          · simp only [setOk] at hr3 hr2
            rw [hr, hr2, hr3]; simp [renderTail]
        · rename_i hne
          exact absurd h (hne _ _)
      · rw [rangeLoop_junk chk cap s out _ cs hr h1 hc] at h
        split at h <;> cases h

theorem parseRangeList_split (chk : Bool) (cap : Nat) (s s' : Stream) (out' : List Int)
    (h : parseRangeList chk cap s [] = .ok s' out') :
    ∃ (r0 : RangeS) (rs : List RangeS), (∀ r ∈ r0 :: rs, r.Syn) ∧
      s.rest = renderList r0 rs ++ s'.rest ∧ cur s' = nul := by
  unfold parseRangeList at h
  split at h
  · rename_i s1 out1 hpr
    obtain ⟨r0, hsyn, hr0⟩ := parseRange_split chk cap _ _ _ _ hpr
    obtain ⟨rs, hrs, hr1, hcur⟩ := rangeLoop_split chk cap _ (setOk s1) out1 s' out' (Nat.le_refl _) h
    refine ⟨r0, rs, ?_, ?_, hcur⟩
    · intro r hr; simp at hr; cases hr with
      | inl h => subst h; exact hsyn
      | inr h => exact hrs r h
    · simp only [setOk] at hr1
      rw [hr0, hr1]; simp [renderList]
  · rename_i hne
    exact absurd h (hne _ _)

end MythVerif.CpuList
