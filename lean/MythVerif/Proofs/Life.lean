import MythVerif.Model.Life
/-! Inductive invariant of the thread life-cycle model and its lifting to every reachable state (`reach_inv`). -/
namespace MythVerif.Life

def tHoldsLock : TPc → Bool
  | .fRead _ | .fSwitched _ => true
  | _ => false

def tBeforeLock : TPc → Bool
  | .created | .run | .fBegin => true
  | _ => false

def tStackGone : TPc → Bool
  | .fSwitched _ | .fFreeing | .fDone => true
  | _ => false

structure Inv (s : St) : Prop where
  tl    : s.tlock = true ↔ tHoldsLock s.tpc = true
  jl    : ∀ j, s.lock = some j ↔ (s.pc j = .jBlock ∨ s.pc j = .jSw)
  excl  : s.tlock = true → s.lock = none
  finD  : s.fin = true → (s.tpc = .fDone ∧ s.det = false)
  doneF : s.tpc = .fDone → (s.fin = true ∨ s.det = true)
  free  : s.tpc = .fFreeing → s.det = true
  rv0   : (s.tpc = .created ∨ s.tpc = .run) ↔ s.retv = none
  rv1   : s.retv = none ∨ s.retv = some s.result
  st0   : s.tpc = .created ↔ s.started = 0
  st1   : s.started ≤ 1
  stk   : s.stackFrees = if tStackGone s.tpc = true then 1 else 0
  blk   : ∀ j, (s.pc j = .jBlock ∨ s.pc j = .jSw) → tBeforeLock s.tpc = true
  slp   : ∀ j, s.pc j = .asleep →
            (tBeforeLock s.tpc = true ∧ s.jt = some j) ∨ s.tpc = .fRead (some j) ∨ s.tpc = .fSwitched (some j)
  wjt   : ∀ w, (s.tpc = .fRead w ∨ s.tpc = .fSwitched w) → w = s.jt
  -- whoever the finisher may find in `join_thread` and resume has saved its context, and is the one reaper
  jtS   : ∀ j, s.jt = some j → (s.jSaved j = true ∧ s.reaper = some j)
  swS   : ∀ j, (s.pc j = .jSw ∨ s.pc j = .asleep) → s.jSaved j = true
  rp    : ∀ j, s.pc j ≠ .idle ↔ s.reaper = some j
  cl    : s.claimed = true ↔ (s.initDet = true ∨ s.reaper ≠ none)
  idt   : s.initDet = true → (s.det = true ∧ s.reaper = none)
  detR  : s.det = true → s.initDet = true ∨ ∃ j, s.pc j = .ddoneSet
  dSet  : ∀ j, s.pc j = .ddoneSet → s.det = true
  detC  : s.det = true → s.claimed = true
  spn   : ∀ j, (s.pc j = .dFree ∨ (∃ v, s.pc j = .jFree v)) → s.fin = true
  jfv   : ∀ j v, (s.pc j = .jFree v ∨ s.pc j = .done v) → s.retv = some v
  -- the record is released at most twice over, never both: by the finisher of a detached thread (`fDone ∧ det`)
  -- or by the reaper (`rfreed`, set exactly when the reaper has returned), and by the latter only after `fin`
  rf0   : s.rfreed = true → s.reaper ≠ none
  rf1   : ∀ j, s.reaper = some j → (s.rfreed = true ↔ ((∃ v, s.pc j = .done v) ∨ s.pc j = .ddone))
  dfc   : s.descFrees = (if s.tpc = .fDone ∧ s.det = true then 1 else 0) + (if s.rfreed = true then 1 else 0)
  rfF   : s.rfreed = true → s.fin = true

theorem inv_init (arg : Val) (d : Bool) : Inv (init arg d) := by
  constructor <;> simp [init, tHoldsLock, tBeforeLock, tStackGone]

/-- if the record's lock is free and nobody has claimed the thread, a thread that is not yet
    published has not even locked its record -/
theorem before_lock_of_free (s : St) (h : Inv s) (hl : s.tlock = false) (hf : s.fin = false)
    (hc : s.claimed = false) : tBeforeLock s.tpc = true := by
  have hd : s.det = false := by
    cases hdet : s.det with
    | false => rfl
    | true => have := h.detC hdet; simp [hc] at this
  cases htp : s.tpc with
  | created => rfl
  | run => rfl
  | fBegin => rfl
  | fRead w => have := h.tl.mpr (by simp [htp, tHoldsLock]); simp [hl] at this
  | fSwitched w => have := h.tl.mpr (by simp [htp, tHoldsLock]); simp [hl] at this
  | fFreeing => have := h.free htp; simp [hd] at this
  | fDone => rcases h.doneF htp with e | e <;> simp_all

-- every joiner step writes `pc` by `upd`; as a parameter the lemma would be processed anew by each of some 150 calls
attribute [local grind =] upd_apply

/-- Every label by the same script, clause by clause.  A clause that reads nothing the step writes is the old
    clause.  A clause about every joiner `k` that reads the step's writes follows from its old instance at `k`: the
    others have not moved, and the new pc of the joiner that has is checked against the guard.  Where that is not
    enough, the last alternative names the old clauses the new one rests on (a clause of the form `p → q` is put
    in the context, as a `grind` parameter it would only be a pattern).
    `blk`: a join may lock the record of an unfinished thread only before the thread's own final critical section
    (`before_lock_of_free`).  `rp` makes the reaper the only joiner that is not idle; `slp`, `jtS`, `rf0`, `rf1`,
    `detC` and `dfc` use it to tell what the stepping joiner is to the record. -/
theorem inv_step (s s' : St) (l : Lbl) (h : Inv s) (hs : step s l = some s') : Inv s' := by
  cases l
  all_goals
    simp only [step] at hs
    repeat' split at hs
    all_goals cases hs
    all_goals exact {
      tl := by first | exact h.tl | grind [h.tl, tHoldsLock]
      jl := fun k => by
        first | exact h.jl k | have := h.jl k; grind 
              | have := h.jl; have := h.excl; grind [h.tl, lockFree, tHoldsLock]
      excl := by first | exact h.excl | grind [lockFree]
      finD := by first | exact h.finD | have := h.finD; grind
      doneF := by first | exact h.doneF | have := h.free; grind
      free := by first | exact h.free | grind
      rv0 := by first | exact h.rv0 | grind [h.rv0]
      rv1 := by first | exact h.rv1 | grind
      st0 := by first | exact h.st0 | grind [h.st0]
      st1 := by first | exact h.st1 | grind [h.st0]
      stk := by first | exact h.stk | grind [h.stk, tStackGone]
      blk := fun k => by
        first | exact h.blk k | have := h.blk k; grind [tBeforeLock]
              | have := h.jl; grind [h.blk, before_lock_of_free s h, lockFree, tBeforeLock]
      slp := fun k => by
        first | exact h.slp k | have := h.slp k; grind [tBeforeLock]
              | have := h.rp; have := h.detR; have := h.idt; grind [h.slp, h.blk, tBeforeLock]
      wjt := by first | exact h.wjt | grind [h.wjt, h.blk, tBeforeLock]
      jtS := fun k => by
        first | exact h.jtS k | have := h.jtS k; grind 
              | have := h.jtS; have := h.rp; grind [h.swS, h.cl]
      swS := fun k => by first | exact h.swS k | have := h.swS k; grind 
      rp := fun k => by
        first | exact h.rp k | have := h.rp k; grind 
              | have := h.rp; have := h.jtS; have := h.wjt; grind [h.cl]
      cl := by first | exact h.cl | grind
      idt := by first | exact h.idt | have := h.idt; grind [h.cl]
      detR := by
        first
        | exact h.detR
        | exact fun _ => .inr ⟨_, upd_same ..⟩   -- the detacher that marks the unfinished thread is the witness
        -- otherwise the old witness stays: the stepping joiner was not at `ddoneSet`
        | exact fun hd => (h.detR hd).imp_right fun ⟨k, hk⟩ => ⟨k, by grind ⟩
      dSet := fun k => by first | exact h.dSet k | have := h.dSet k; grind 
      detC := by first | exact h.detC | have := h.rp; grind [h.cl]
      spn := fun k => by first | exact h.spn k | have := h.spn k; grind 
      jfv := fun k => by
        first | exact h.jfv k | have := h.jfv k; grind 
              | have := h.finD; grind [h.jfv, h.rv0, h.rv1]
      rf0 := by first | exact h.rf0 | have := h.rp; grind
      rf1 := fun k => by
        first | exact h.rf1 k | have := h.rf1 k; grind 
              | have := h.rf1; have := h.rf0; have := h.rfF; have := h.finD; have := h.rp; grind [h.cl]
      dfc := by
        first | exact h.dfc | have := h.free; have := h.doneF; grind [h.dfc]
              | have := h.rf1; have := h.rp; grind [h.dfc]
      rfF := by first | exact h.rfF | grind [h.spn] }

/-- reachable from creation with argument `arg`, created detached or not -/
def Reach (arg : Val) (d : Bool) (s : St) : Prop := Reachable step (init arg d) s

theorem reach_inv (arg : Val) (d : Bool) (s : St) (h : Reach arg d s) : Inv s :=
  inv_reachable step (init arg d) Inv (inv_init arg d) (fun s l s' => inv_step s s' l) s h

end MythVerif.Life
