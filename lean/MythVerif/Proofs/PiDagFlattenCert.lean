import MythVerif.Proofs.PiDagTreeOrder
import MythVerif.Proofs.PiDagKahn
import MythVerif.Proofs.PiDagStrings
/-! The `certificate` conjunct for every dump of a recorded DAG: the hypotheses of the Kahn
soundness theorem hold, the rank function being the position in the preorder of the tree.  With the
other six conjuncts: whatever `finishDag` builds from a laid-out node array with a sound string table
is well formed, in particular every `flatten`. -/
namespace MythVerif.PiDag
open MythVerif.DagRec

/-- the edges the traversal walks at `u` are edges of `E` with source `u` -/
theorem outEdges_mem (G : PiDag) (h : wfGrouped G = true) (u : Nat) (hu : u < G.T.size) (e : PEdge)
    (he : e ∈ outEdges G u) : e ∈ G.E.toList ∧ e.u = u := by
  have hg := groupedFacts_of_wf G h
  rw [outEdges_eq] at he
  refine ⟨List.mem_of_mem_drop (List.mem_of_mem_take he), ?_⟩
  obtain ⟨j, hj, hje⟩ := List.mem_iff_getElem.mp he
  simp only [List.length_take, List.length_drop] at hj
  rw [List.getElem_take, List.getElem_drop] at hje
  have := hg.src u hu j (by omega)
  have hlt : G.T[u]!.eb + j < G.E.size := by
    have := hj; simp only [Array.length_toList] at this; omega
  rw [getElem!_pos G.E _ hlt] at this
  rw [← hje]
  simpa using this

theorem finishDag_khyp (T : Array PNode) (st : List Nat) (nw : Nat) (d : DNode) (hlT1 : LayN T d 0 1)
    (hlT2 : T.size = 1 + descT d) (h : gTask d = true) :
    KHyp (finishDag T st nw) (fun v => (preN d 0 1).idxOf v) := by
  have hw := gTask_gW d h
  have hlG := finishDag_lay T st nw d hlT1 hlT2
  have hendsT := enumEdges_ends T d hlT1 hlT2 hw
  have hgr : wfGrouped (finishDag T st nw) = true :=
    finishDag_grouped _ _ _ (by rw [hlT2]; omega) (fun e he => (hendsT e he).1.1)
  have hsize : (finishDag T st nw).T.size = T.size := by rw [hlG.2, hlT2]
  have hE : (finishDag T st nw).E.toList = sortEdges (enumEdges T) := by
    simp [finishDag]
  have hshape : ∀ r, isLeaf (finishDag T st nw).T[r]! = isLeaf T[r]! := fun r => by
    simp only [finishDag]
    exact isLeaf_shape (setEdgePtrs_shape _ _ _)
  have hperm : ∀ e, e ∈ (finishDag T st nw).E.toList ↔ e ∈ teN (kfOf T) d 0 1 := by
    intro e
    rw [hE, mem_sortEdges]
    exact (enumEdges_perm _ d hlT1 hlT2 hw).mem_iff
  have hmemT : ∀ e, e ∈ (finishDag T st nw).E.toList → e ∈ enumEdges T := by
    intro e he; rw [hE, mem_sortEdges] at he; exact he
  have hfl : firstLeaf (finishDag T st nw) = firstN d 0 1 := by
    unfold firstLeaf
    exact first_eq _ d 0 1 _ hlG.1 hw (by rw [hlG.2]; omega)
  have hindeg := indegrees_get (finishDag T st nw)
  have hleafmem : ∀ v, v < T.size → isLeaf T[v]! = true → v ∈ leavesN d 0 1 := by
    intro v hv hl
    exact leaf_memN _ d 0 1 hlT1 hw v (by simp only [InN]; rw [hlT2] at hv; omega) hl
  have hflin := firstN_in d 0 1
  refine ⟨?_, ?_, ?_, ?_, ?_, ?_, ?_⟩
  · rw [hfl, hlG.2]; simp only [InN] at hflin; omega
  · rw [hfl]; exact firstN_leaf _ d 0 1 hlG.1 hw
  · intro u hu e he
    obtain ⟨h1, h2⟩ := outEdges_mem _ hgr u hu e he
    obtain ⟨⟨_, q2⟩, ⟨q3, q4⟩⟩ := hendsT e (hmemT e h1)
    rw [h2] at q2
    exact ⟨by rw [hsize]; exact q3, by rw [hshape]; exact q2, by rw [hshape]; exact q4⟩
  · intro u hu e he
    obtain ⟨h1, h2⟩ := outEdges_mem _ hgr u hu e he
    have := ordN (kfOf T) d 0 1 (by omega) e ((hperm e).mp h1)
    rw [h2] at this
    exact this.2.2
  · rw [hindeg _ (by rw [hfl, hlG.2]; simp only [InN] at hflin; omega)]
    apply Classical.byContradiction
    intro h0
    obtain ⟨e, he, hev⟩ := cntV_pos (show 0 < cntV (finishDag T st nw).E.toList (firstLeaf (finishDag T st nw)) by omega)
    have hb := ordN (kfOf T) d 0 1 (by omega) e ((hperm e).mp he)
    obtain ⟨⟨q1, q2⟩, _⟩ := hendsT e (hmemT e he)
    have hmin := minN d 0 1 (by omega) e.u (hleafmem e.u q1 q2)
    have := hb.2.2
    rw [hev, hfl] at this
    omega
  · intro i hi hl hne
    rw [hindeg i hi]
    rw [hshape] at hl
    have hm := hleafmem i (by rw [← hsize]; exact hi) hl
    obtain ⟨e, he, hev⟩ := leaf_has_in (kfOf T) d h i hm (by rw [← hfl]; exact hne)
    have := cntV_pos_of_mem ((hperm e).mpr he)
    rw [hev] at this
    exact this
  · exact degrees_of_wf _ (wfDegrees_of_grouped _ hgr)

/-- **every DAG built by `finishDag` (edges, sort, edge pointers) from a node array that is the
    layout of a tree of the recorder's shape, with a sound string table, is well formed** -/
theorem finishDag_wellFormed (T : Array PNode) (st : List Nat) (nw : Nat) (d : DNode) (hl : LayN T d 0 1)
    (hn : T.size = 1 + descT d) (h : gTask d = true) (hs : StrOK T st) : wellFormed (finishDag T st nw) = true := by
  have hw := gTask_gW d h
  have hlG := finishDag_lay T st nw d hl hn
  have hends := enumEdges_ends T d hl hn hw
  have hgr : wfGrouped (finishDag T st nw) = true :=
    finishDag_grouped _ _ _ (by rw [hn]; omega) (fun e he => (hends e he).1.1)
  have hcnt : ((finishDag T st nw).E.size == countEdges (finishDag T st nw).T) = true := by
    have := counted_of_lay T (finishDag T st nw).T d hl hn hlG.1 hlG.2 h
    simp only [beq_iff_eq]
    rw [← this]
    simp [finishDag, sortEdges, List.length_mergeSort]
  unfold wellFormed wfReport
  simp only [Bool.and_eq_true]
  exact ⟨⟨⟨⟨⟨⟨wfOffsets_of_lay _ d hlG.1 hlG.2 hw, finishDag_edgeEnds _ _ _ hends⟩, hgr⟩, hcnt⟩,
    finishDag_wfStrings T st nw hs⟩, wfDegrees_of_grouped _ hgr⟩, wfCertificate_of_hyp _ _ (finishDag_khyp T st nw d hl hn h)⟩

/-- **every dump of a recorded DAG is well formed** -/
theorem flatten_wellFormed (sc nw : Nat) (d : DNode) (h : gTask d = true) : wellFormed (flatten sc nw d) = true :=
  finishDag_wellFormed _ _ nw d (enumNodes_lay sc d).1 (enumNodes_lay sc d).2 h (enumNodes_strOK sc d)

end MythVerif.PiDag
