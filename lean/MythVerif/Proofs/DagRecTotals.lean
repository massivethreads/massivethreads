import MythVerif.Proofs.DagRec
/-! Closed forms of `dr_accumulate_stats`, and that they yield the totals the flat-list specification
(`flatWork`, `flatNC`, `flatEC` of `Model/DagRec.lean`) prescribes. -/
namespace MythVerif.DagRec

/-- work below a view (a create view stands for its interval and the created task) -/
def View.t1 (x : View) : Nat :=
  match x.i.c.kind, x.child with
  | .createTask, some c => x.i.c.t1 + c.c.t1
  | _, _ => x.i.c.t1

def View.nc (x : View) : NC :=
  match x.i.c.kind, x.child with
  | .createTask, some c => x.i.c.nc + c.c.nc
  | _, _ => x.i.c.nc

/-- edges a parent accounts for on behalf of child `x` (`hn` = `x->next != 0`) -/
def View.ec (v : Variant) (x : View) (hn : Bool) : EC :=
  match x.i.c.kind with
  | .createTask =>
    match x.child with
    | some c => x.i.c.ec + c.c.ec + ⟨if v = .fixed then 1 else 0, 1, 1, 0, 0⟩
    | none => x.i.c.ec
  | .section => if hn then x.i.c.ec + ⟨if v = .pinned then x.i.c.nChild else 0, 0, 0, 1, 0⟩ else x.i.c.ec
  | .other => if hn && v == .fixed then x.i.c.ec + ⟨0, 0, 0, 0, 1⟩ else x.i.c.ec
  | _ => x.i.c.ec

theorem View.t1_none (x : View) (h : x.child = none) : x.t1 = x.i.c.t1 := by
  unfold View.t1; split <;> simp_all
theorem View.nc_none (x : View) (h : x.child = none) : x.nc = x.i.c.nc := by
  unfold View.nc; split <;> simp_all

/-- nodes below a view as `dr_accumulate_stats` adds them up -/
def View.cur (x : View) : Nat :=
  match x.i.c.kind, x.child with
  | .createTask, some c => x.i.cur + c.cur
  | _, _ => x.i.cur

def sumT1 : List View → Nat
  | [] => 0
  | x :: r => x.t1 + sumT1 r
def ncSum : List View → NC
  | [] => {}
  | x :: r => x.nc + ncSum r
def ecSum (v : Variant) : List View → EC
  | [] => {}
  | x :: r => x.ec v (!r.isEmpty) + ecSum v r
def sumCur : List View → Nat
  | [] => 0
  | x :: r => x.cur + sumCur r

theorem accStep_closed (v : Variant) (a : Acc) (x : View) (h : Bool) :
    (accStep v a x h).s.c.kind = a.s.c.kind ∧ (accStep v a x h).s.c.est = a.s.c.est ∧
    (accStep v a x h).s.c.t1 = a.s.c.t1 + x.t1 ∧ (accStep v a x h).s.c.nc = a.s.c.nc + x.nc ∧
    (accStep v a x h).s.c.ec = a.s.c.ec + x.ec v h ∧ (accStep v a x h).s.cur = a.s.cur + x.cur := by
  cases v <;> unfold accStep View.t1 View.nc View.ec View.cur <;>
    split <;> (try split) <;> (try split) <;> simp_all [NC.ext_iff, EC.ext_iff] <;> omega

theorem accLoop_closed (v : Variant) (xs : List View) : ∀ a : Acc,
    (accLoop v a xs).s.c.kind = a.s.c.kind ∧ (accLoop v a xs).s.c.est = a.s.c.est ∧
    (accLoop v a xs).s.c.t1 = a.s.c.t1 + sumT1 xs ∧ (accLoop v a xs).s.c.nc = a.s.c.nc + ncSum xs ∧
    (accLoop v a xs).s.c.ec = a.s.c.ec + ecSum v xs ∧ (accLoop v a xs).s.cur = a.s.cur + sumCur xs := by
  induction xs with
  | nil => intro a; simp [accLoop, sumT1, ncSum, ecSum, sumCur, NC.ext_iff, EC.ext_iff]
  | cons x r ih =>
    intro a
    obtain ⟨h1, h2, h3, h4, h5, h6⟩ := ih (accStep v a x (!r.isEmpty))
    obtain ⟨g1, g2, g3, g4, g5, g6⟩ := accStep_closed v a x (!r.isEmpty)
    simp only [accLoop, sumT1, ncSum, ecSum, sumCur, h1, h2, h3, h4, h5, h6, g1, g2, g3, g4, g5, g6]
    simp [NC.ext_iff, EC.ext_iff]; omega

theorem accumulate_kind (v : Variant) (k : NKind) (xs : List View) : (accumulate v k xs).c.kind = k := by
  cases xs with
  | nil => rfl
  | cons x r => simp [accumulate, accFinish, (accLoop_closed v _ _).1, accInit]

theorem accumulate_est (v : Variant) (k : NKind) (x : View) (r : List View) :
    (accumulate v k (x :: r)).c.est = x.i.c.est := by
  simp [accumulate, accFinish, (accLoop_closed v _ _).2.1, accInit]

/-- `dr_accumulate_stats` in closed form: work, interval counts, edge counts and `cur_node_count` -/
theorem accumulate_closed (v : Variant) (k : NKind) (xs : List View) (h : xs ≠ []) :
    (accumulate v k xs).c.t1 = sumT1 xs ∧ (accumulate v k xs).c.nc = ncSum xs ∧
    (accumulate v k xs).c.ec = ecSum v xs ∧ (accumulate v k xs).cur = 1 + sumCur xs := by
  cases xs with
  | nil => exact absurd rfl h
  | cons x r =>
    obtain ⟨_, _, h3, h4, h5, h6⟩ := accLoop_closed v (x :: r) { s := accInit k x ((x :: r).getLast?.getD x), tinfMax := 0 }
    simp only [accumulate, accFinish, h3, h4, h5, h6]
    simp [accInit, NC.ext_iff, EC.ext_iff]

/-! #### work, interval counts and edge counts of well-nested executions -/

theorem flatWork_append (a b : List Leaf) : flatWork (a ++ b) = flatWork a + flatWork b := by
  simp [flatWork, List.map_append, List.sum_append]

theorem flatCount_append (k : NKind) (a b : List Leaf) : flatCount k (a ++ b) = flatCount k a + flatCount k b := by
  simp [flatCount, List.countP_append]

theorem flatNC_append (a b : List Leaf) : flatNC (a ++ b) = flatNC a + flatNC b := by
  ext <;> simp [flatNC, flatCount_append]

theorem flatEC_append (a b : List Leaf) : flatEC (a ++ b) = flatEC a + flatEC b := by
  ext <;> simp [flatEC, flatCount_append]

/-- the role a tree node can play inside a well-nested execution -/
def WnAny (t : Tree) : Prop := (∃ b, wnItem b t = true) ∨ (∃ b, isLast b t = true) ∨ wnTask t = true

theorem wnAny_of_item {b : Bool} {t : Tree} (h : wnItem b t = true) : WnAny t := Or.inl ⟨b, h⟩
theorem wnAny_of_last {b : Bool} {t : Tree} (h : isLast b t = true) : WnAny t := Or.inr (Or.inl ⟨b, h⟩)
theorem wnAny_of_task {t : Tree} (h : wnTask t = true) : WnAny t := Or.inr (Or.inr h)

theorem wnForest_views_ne (v : Variant) (b : Bool) (f : Forest) (c : Cursor) (h : wnForest b f = true) :
    (viewForest v f c).1 ≠ [] := by
  cases f with
  | nil => simp [wnForest] at h
  | cons t rest => simp [viewForest]

theorem wnAny_group {k : NKind} {f : Forest} (h : WnAny (.group k f)) : ∃ b, wnForest b f = true := by
  rcases h with ⟨b, h⟩ | ⟨b, h⟩ | h
  · simp [wnItem] at h; exact ⟨false, h.2⟩
  · simp [isLast] at h
  · simp [wnTask] at h; exact ⟨true, h.2⟩

theorem wnAny_create {r : Raw} {child : Tree} (h : WnAny (.create r child)) : wnTask child = true := by
  rcases h with ⟨b, h⟩ | ⟨b, h⟩ | h
  · simp [wnItem] at h; exact h.2
  · simp [isLast] at h
  · simp [wnTask] at h

theorem wnTask_group {t : Tree} (h : wnTask t = true) : ∃ f, t = .group .task f ∧ wnForest true f = true := by
  cases t with
  | ival k r => simp [wnTask] at h
  | create r ch => simp [wnTask] at h
  | group k f => simp [wnTask] at h; exact ⟨f, by rw [h.1], h.2⟩

theorem viewForest_cons (v : Variant) (x : Tree) (rest : Forest) (c : Cursor) :
    (viewForest v (.cons x rest) c).1 = (viewTree v x c).1 :: (viewForest v rest (viewTree v x c).2).1 := by
  rw [viewForest]

theorem leavesForest_cons (x : Tree) (rest : Forest) :
    leavesForest (.cons x rest) = leavesTree x ++ leavesForest rest := by
  rw [leavesForest]

mutual
theorem viewTree_t1_nc (v : Variant) : ∀ (t : Tree) (c : Cursor), WnAny t →
    (viewTree v t c).1.t1 = flatWork (leavesTree t) ∧ (viewTree v t c).1.nc = flatNC (leavesTree t)
  | .ival k r, c, _ => by
    cases k <;> simp [viewTree, View.t1, View.nc, endInterval, leavesTree, flatWork, Leaf.dur, flatNC, flatCount, NC.single]
  | .create r child, c, h => by
    obtain ⟨f, rfl, hf⟩ := wnTask_group (wnAny_create h)
    have ih := viewTree_t1_nc v (.group .task f) (cursorAfter (endInterval .createTask r c) .create)
      (wnAny_of_task (by simp [wnTask, hf]))
    simp only [viewTree, View.t1, View.nc] at ih ⊢
    rw [leavesTree, ← List.singleton_append, flatWork_append, flatNC_append, ← ih.1, ← ih.2]
    simp [endInterval, flatWork, Leaf.dur, flatNC, flatCount, NC.single]
  | .group k f, c, h => by
    obtain ⟨b, hb⟩ := wnAny_group h
    obtain ⟨h1, h2, _⟩ := accumulate_closed v k _ (wnForest_views_ne v b f c hb)
    simp only [viewTree, leavesTree]
    rw [View.t1_none _ rfl, View.nc_none _ rfl, h1, h2]
    exact viewForest_t1_nc v f c b hb
theorem viewForest_t1_nc (v : Variant) : ∀ (f : Forest) (c : Cursor) (b : Bool), wnForest b f = true →
    sumT1 (viewForest v f c).1 = flatWork (leavesForest f) ∧ ncSum (viewForest v f c).1 = flatNC (leavesForest f)
  | .nil, c, b, h => by simp [wnForest] at h
  | .cons t .nil, c, b, h => by
    simp only [wnForest] at h
    have ih := viewTree_t1_nc v t c (wnAny_of_last h)
    simp [viewForest, sumT1, ncSum, leavesForest, ← ih.1, ← ih.2, NC.ext_iff]
  | .cons t (.cons t' rest), c, b, h => by
    simp only [wnForest, Bool.and_eq_true] at h
    have ih1 := viewTree_t1_nc v t c (wnAny_of_item h.1)
    have ih2 := viewForest_t1_nc v (.cons t' rest) (viewTree v t c).2 b h.2
    rw [leavesForest_cons, viewForest_cons, flatWork_append, flatNC_append, ← ih1.1, ← ih1.2, ← ih2.1, ← ih2.2]
    simp [sumT1, ncSum]
end

/-- the `wait_cont` edge of a section's own wait is accounted for by the section's parent -/
def ownWait (inTask : Bool) : EC := if inTask then {} else ⟨0, 0, 0, 1, 0⟩

-- A tree occurs in three roles of the grammar: as a non-final child (`wnItem`), as the closing interval
-- (`isLast`), as a task (`wnTask`).  What holds of it differs with the role, so an induction over trees states
-- one conjunct per role and the forest case picks the one that applies.  The inductions over the grammar in
-- `DagRecStat`, `DagRecPathCount` and the `PiDag*` files (there with `gItem`, `gLast`, `gTask`) have this shape.
mutual
theorem viewTree_ec : ∀ (t : Tree) (c : Cursor),
    (∀ b, wnItem b t = true → (viewTree .fixed t c).1.ec .fixed true = flatEC (leavesTree t)) ∧
    (∀ b, isLast b t = true → (viewTree .fixed t c).1.ec .fixed false + ownWait b = flatEC (leavesTree t)) ∧
    (wnTask t = true → (viewTree .fixed t c).1.i.c.ec = flatEC (leavesTree t))
  | .ival k r, c => by
    refine ⟨?_, ?_, by simp [wnTask]⟩
    · intro b h
      simp [wnItem] at h; subst h
      simp [viewTree, View.ec, endInterval, leavesTree, flatEC, flatCount, EC.ext_iff]
    · intro b h
      cases b <;> simp [isLast] at h <;> subst h <;>
        simp [viewTree, View.ec, endInterval, leavesTree, flatEC, flatCount, ownWait, EC.ext_iff]
  | .create r child, c => by
    refine ⟨?_, by simp [isLast], by simp [wnTask]⟩
    intro b h
    simp only [wnItem, Bool.and_eq_true] at h
    have ih := (viewTree_ec child (cursorAfter (endInterval .createTask r c) .create)).2.2 h.2
    simp only [viewTree, View.ec]
    rw [leavesTree, ← List.singleton_append, flatEC_append, ← ih]
    simp [endInterval, flatEC, flatCount, EC.ext_iff]; omega
  | .group k f, c => by
    refine ⟨?_, by simp [isLast], ?_⟩
    · intro b h
      simp only [wnItem, Bool.and_eq_true, beq_iff_eq] at h
      obtain ⟨rfl, hf⟩ := h
      simp only [viewTree, leavesTree, View.ec, accumulate_kind]
      rw [(accumulate_closed _ _ _ (wnForest_views_ne .fixed false f c hf)).2.2.1, ← viewForest_ec f c false hf]
      simp [ownWait]
    · intro h
      simp only [wnTask, Bool.and_eq_true, beq_iff_eq] at h
      obtain ⟨rfl, hf⟩ := h
      simp only [viewTree, leavesTree]
      rw [(accumulate_closed _ _ _ (wnForest_views_ne .fixed true f c hf)).2.2.1, ← viewForest_ec f c true hf]
      simp [ownWait, EC.ext_iff]
theorem viewForest_ec : ∀ (f : Forest) (c : Cursor) (b : Bool), wnForest b f = true →
    ecSum .fixed (viewForest .fixed f c).1 + ownWait b = flatEC (leavesForest f)
  | .nil, c, b, h => by simp [wnForest] at h
  | .cons t .nil, c, b, h => by
    simp only [wnForest] at h
    simp [viewForest, ecSum, leavesForest, ← (viewTree_ec t c).2.1 b h, EC.ext_iff]
  | .cons t (.cons t' rest), c, b, h => by
    simp only [wnForest, Bool.and_eq_true] at h
    rw [leavesForest_cons, viewForest_cons, flatEC_append, ← (viewTree_ec t c).1 b h.1,
      ← viewForest_ec (.cons t' rest) (viewTree .fixed t c).2 b h.2]
    simp [viewForest, ecSum, EC.ext_iff]; omega
end

end MythVerif.DagRec
