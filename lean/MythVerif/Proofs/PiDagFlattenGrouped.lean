import MythVerif.Proofs.PiDagFlattenEdges
import MythVerif.Proofs.PiDagCert
/-! The `grouped` conjunct: after `dr_pi_dag_sort_edges` and `dr_pi_dag_set_edge_ptrs` the edges are
sorted by source and `edges_begin` / `edges_end` partition `E` by source.  The `degrees` conjunct follows
from `grouped` for EVERY DAG: walking the per-node edge ranges then visits every edge exactly once. -/
namespace MythVerif.PiDag

theorem edgeLe_trans (a b c : PEdge) (h1 : edgeLe a b = true) (h2 : edgeLe b c = true) : edgeLe a c = true := by
  simp only [edgeLe, Bool.or_eq_true, decide_eq_true_eq, Bool.and_eq_true, beq_iff_eq] at *
  omega

theorem edgeLe_total (a b : PEdge) : (edgeLe a b || edgeLe b a) = true := by
  simp only [edgeLe, Bool.or_eq_true, decide_eq_true_eq, Bool.and_eq_true, beq_iff_eq]
  omega

theorem sortEdges_sorted (es : List PEdge) : (sortEdges es).Pairwise (fun a b => a.u ≤ b.u) := by
  have := List.pairwise_mergeSort edgeLe_trans edgeLe_total es
  refine List.Pairwise.imp ?_ this
  intro a b h
  simp only [edgeLe, Bool.or_eq_true, decide_eq_true_eq, Bool.and_eq_true, beq_iff_eq] at h
  omega

/-! ### positions in a list sorted by source -/

/-- number of edges with a source below `i` -/
def cntLt (L : List PEdge) (i : Nat) : Nat := L.countP (fun e => decide (e.u < i))

theorem cntLt_cons (a : PEdge) (L : List PEdge) (i : Nat) :
    cntLt (a :: L) i = cntLt L i + (if a.u < i then 1 else 0) := by
  simp [cntLt, List.countP_cons]

theorem cntLt_zero_of_ge (L : List PEdge) (i : Nat) (h : ∀ e ∈ L, i ≤ e.u) : cntLt L i = 0 := by
  simp only [cntLt, List.countP_eq_zero, decide_eq_true_eq]
  intro e he; have := h e he; omega

theorem cntLt_le (L : List PEdge) (i : Nat) : cntLt L i ≤ L.length := List.countP_le_length

theorem cntLt_mono (L : List PEdge) (i : Nat) : cntLt L i ≤ cntLt L (i + 1) := by
  induction L with
  | nil => simp [cntLt]
  | cons a L ih => rw [cntLt_cons, cntLt_cons]; split <;> split <;> omega

theorem cntLt_all (L : List PEdge) (n : Nat) (h : ∀ e ∈ L, e.u < n) : cntLt L n = L.length := by
  simp only [cntLt, List.countP_eq_length, decide_eq_true_eq]
  exact h

theorem sorted_pos : ∀ (L : List PEdge), L.Pairwise (fun a b => a.u ≤ b.u) → ∀ (i p : Nat) (hp : p < L.length),
    (L[p].u < i ↔ p < cntLt L i)
  | [], _, _, p, hp => by simp at hp
  | a :: L, hs, i, p, hp => by
    rw [List.pairwise_cons] at hs
    rw [cntLt_cons]
    by_cases ha : a.u < i
    · simp only [ha, if_true]
      cases p with
      | zero => simp [ha]
      | succ p =>
        simp only [List.getElem_cons_succ]
        rw [sorted_pos L hs.2 i p (by simpa using hp)]
        omega
    · have hz : cntLt L i = 0 := cntLt_zero_of_ge L i (fun e he => by have := hs.1 e he; omega)
      simp only [ha, if_false, hz]
      cases p with
      | zero => simp [ha]
      | succ p =>
        simp only [List.getElem_cons_succ]
        have hp' : p < L.length := by simpa using hp
        have := hs.1 (L[p]'hp') (List.getElem_mem _)
        omega

/-! ### the edge pointer table -/

theorem prefixFold_spec (cnt : Array Nat) : ∀ (k : Nat),
    let r := (List.range k).foldl (fun (acc : Nat × Array Nat) i =>
      let a := acc.1 + cnt[i]!
      (a, acc.2.push a)) (0, #[])
    r.1 = rsum k (fun i => cnt[i]!) ∧ r.2.size = k ∧ ∀ j, j < k → r.2[j]! = rsum (j + 1) (fun i => cnt[i]!) := by
  intro k
  induction k with
  | zero => exact ⟨rfl, rfl, fun j hj => by omega⟩
  | succ k ih =>
    simp only at ih ⊢
    rw [List.range_succ, List.foldl_append]
    simp only [List.foldl_cons, List.foldl_nil, Array.size_push]
    obtain ⟨h1, h2, h3⟩ := ih
    refine ⟨by rw [h1, rsum_succ], by rw [h2], fun j hj => ?_⟩
    by_cases hjk : j = k
    · subst hjk
      rw [getElem!_pos _ _ (by simp [h2])]
      simp only [Array.getElem_push, h2, Nat.lt_irrefl, dite_false]
      rw [h1, rsum_succ]
    · rw [getElem!_pos _ _ (by simp [h2]; omega)]
      simp only [Array.getElem_push]
      rw [dif_pos (by rw [h2]; omega), ← getElem!_pos]
      exact h3 j (by omega)

theorem countP_lt_succ (L : List PEdge) (j : Nat) :
    L.countP (fun e => decide (e.u < j)) + L.countP (fun e => decide (e.u + 1 = j + 1)) =
      L.countP (fun e => decide (e.u < j + 1)) := by
  induction L with
  | nil => rfl
  | cons a L ihL =>
    simp only [List.countP_cons, decide_eq_true_eq]
    split <;> split <;> split <;> omega

theorem rsum_countP_lt (L : List PEdge) (j : Nat) :
    rsum (j + 1) (fun i => L.countP (fun e => decide (e.u + 1 = i))) = cntLt L j := by
  induction j with
  | zero =>
    simp [rsum, cntLt]
  | succ j ih =>
    rw [rsum_succ, ih]
    exact countP_lt_succ L j

/-- `tbl[i]` is the number of edges with a source below `i` -/
theorem edgePtrTable_get (n : Nat) (L : List PEdge) (i : Nat) (hi : i ≤ n) :
    (edgePtrTable n L)[i]! = cntLt L i := by
  unfold edgePtrTable
  simp only
  have hc := foldl_modify_inc (fun e : PEdge => e.u + 1) L (Array.replicate (n + 1) 0)
  have hp := prefixFold_spec (L.foldl (fun (c : Array Nat) e => c.modify (e.u + 1) (· + 1)) (Array.replicate (n + 1) 0)) (n + 1)
  simp only at hp
  rw [hp.2.2 i (by omega), ← rsum_countP_lt]
  apply rsum_congr
  intro x hx
  rw [hc.2 x (by simp; omega), replicate_get!]
  omega

theorem finishDag_grouped (T : Array PNode) (st : List Nat) (nw : Nat) (hn : 0 < T.size)
    (hb : ∀ e ∈ enumEdges T, e.u < T.size) : wfGrouped (finishDag T st nw) = true := by
  have hsize : (finishDag T st nw).T.size = T.size := (setEdgePtrs_spec _ _).1
  have hE : ∀ j : Nat, (finishDag T st nw).E[j]! = (sortEdges (enumEdges T))[j]! := fun (j : Nat) => by
    simp [finishDag]
  have hm : (finishDag T st nw).E.size = (sortEdges (enumEdges T)).length := by simp [finishDag]
  have heb : ∀ i, i < T.size → (finishDag T st nw).T[i]!.eb = cntLt (sortEdges (enumEdges T)) i := fun i hi => by
    simp only [finishDag]
    rw [setEdgePtrs_get _ _ i hi, edgePtrTable_get _ _ i (by omega)]
  have hee : ∀ i, i < T.size → (finishDag T st nw).T[i]!.ee = cntLt (sortEdges (enumEdges T)) (i + 1) := fun i hi => by
    simp only [finishDag]
    rw [setEdgePtrs_get _ _ i hi, edgePtrTable_get _ _ (i + 1) (by omega)]
  have hsorted := sortEdges_sorted (enumEdges T)
  have hb' : ∀ e ∈ sortEdges (enumEdges T), e.u < T.size := fun e he => hb e ((mem_sortEdges _ _).mp he)
  generalize sortEdges (enumEdges T) = L at *
  unfold wfGrouped
  simp only [hsize, hm, Bool.and_eq_true, decide_eq_true_eq, beq_iff_eq, List.all_eq_true, List.mem_range,
    Bool.or_eq_true]
  refine ⟨⟨⟨⟨hn, ?_⟩, ?_⟩, ?_⟩, ?_⟩
  · rw [heb 0 hn]; simp [cntLt]
  · rw [hee _ (by omega), show T.size - 1 + 1 = T.size by omega, cntLt_all L _ hb']
  · intro i hi
    rw [heb i hi, hee i hi]
    refine ⟨⟨⟨cntLt_mono L i, cntLt_le L _⟩, ?_⟩, ?_⟩
    · by_cases h : T.size ≤ i + 1
      · left; exact h
      · right; rw [heb (i + 1) (by omega)]
    · intro k hk
      rw [hE]
      have hlt : cntLt L i + k < L.length := by have := cntLt_le L (i + 1); omega
      rw [getElem!_pos L _ hlt]
      have h1 := sorted_pos L hsorted i _ hlt
      have h2 := sorted_pos L hsorted (i + 1) _ hlt
      omega
  · intro j hj
    rw [hE, hE, getElem!_pos L j (by omega), getElem!_pos L (j + 1) (by omega)]
    exact List.pairwise_iff_getElem.mp hsorted j (j + 1) (by omega) (by omega) (by omega)

/-! ### `degrees` from `grouped` -/

structure GroupedFacts (G : PiDag) : Prop where
  pos : 0 < G.T.size
  eb0 : G.T[0]!.eb = 0
  eeN : G.T[G.T.size - 1]!.ee = G.E.size
  le : ∀ i, i < G.T.size → G.T[i]!.eb ≤ G.T[i]!.ee ∧ G.T[i]!.ee ≤ G.E.size
  chain : ∀ i, i + 1 < G.T.size → G.T[i + 1]!.eb = G.T[i]!.ee
  src : ∀ i, i < G.T.size → ∀ k, k < G.T[i]!.ee - G.T[i]!.eb → G.E[G.T[i]!.eb + k]!.u = i

theorem groupedFacts_of_wf (G : PiDag) (h : wfGrouped G = true) : GroupedFacts G := by
  unfold wfGrouped at h
  simp only [Bool.and_eq_true, decide_eq_true_eq, beq_iff_eq, List.all_eq_true, List.mem_range,
    Bool.or_eq_true] at h
  obtain ⟨⟨⟨⟨h1, h2⟩, h3⟩, h4⟩, _⟩ := h
  refine ⟨h1, h2, h3, fun i hi => ⟨(h4 i hi).1.1.1, (h4 i hi).1.1.2⟩, fun i hi => ?_, fun i hi => (h4 i hi).2⟩
  rcases (h4 i (by omega)).1.2 with h | h
  · omega
  · exact h

theorem outEdges_eq (G : PiDag) (u : Nat) :
    outEdges G u = (G.E.toList.drop G.T[u]!.eb).take (G.T[u]!.ee - G.T[u]!.eb) := by
  simp [outEdges, List.extract_eq_take_drop]

theorem slice_sum (G : PiDag) (hg : GroupedFacts G) (v : Nat) : ∀ k, k ≤ G.T.size →
    rsum k (fun u => cntV (outEdges G u) v) = cntV (G.E.toList.take (if k = 0 then 0 else G.T[k - 1]!.ee)) v := by
  intro k
  induction k with
  | zero => intro _; simp [rsum, cntV]
  | succ k ih =>
    intro hk
    rw [rsum_succ, ih (by omega), outEdges_eq]
    have hbnd : (if k = 0 then 0 else G.T[k - 1]!.ee) = G.T[k]!.eb := by
      by_cases h0 : k = 0
      · subst h0; simp [hg.eb0]
      · rw [if_neg h0]
        have := hg.chain (k - 1) (by omega)
        rw [show k - 1 + 1 = k by omega] at this
        exact this.symm
    rw [hbnd, ← cntV_append, ← List.take_add]
    have := (hg.le k (by omega)).1
    simp only [Nat.add_one_ne_zero, if_false, Nat.add_sub_cancel]
    rw [show G.T[k]!.eb + (G.T[k]!.ee - G.T[k]!.eb) = G.T[k]!.ee by omega]

/-- **degrees from grouped**, for every DAG -/
theorem wfDegrees_of_grouped (G : PiDag) (h : wfGrouped G = true) : wfDegrees G = true := by
  have hg := groupedFacts_of_wf G h
  unfold wfDegrees arrEqUpTo
  simp only [List.all_eq_true, List.mem_range, beq_iff_eq]
  intro v hv
  rw [sliceDegrees_get G v hv, slice_sum G hg v G.T.size (Nat.le_refl _)]
  have hne : G.T.size ≠ 0 := by have := hg.pos; omega
  rw [if_neg hne, hg.eeN]
  rw [indegrees_get G v hv, List.take_of_length_le (by simp)]

end MythVerif.PiDag
