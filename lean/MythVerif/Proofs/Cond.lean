import MythVerif.Model.Cond
/-! Inductive invariant of the condition-variable model; its preservation is `inv_step` in
`Properties/C05.lean`. -/
namespace MythVerif.Cond

structure Inv (s : St) : Prop where
  cqA  : ∀ x, x ∈ s.cq → s.pc x = .wQ
  cqN  : s.cq.Nodup
  dqA  : ∀ x, x ∈ s.deqd → s.pc x = .wQ
  dqN  : s.deqd.Nodup
  dis  : ∀ x, x ∈ s.cq → x ∉ s.deqd
  rel  : ∀ x, s.pc x = .wQ → x ∈ s.cq ∨ x ∈ s.deqd
  hold : ∀ x, (s.pc x = .w0 ∨ s.pc x = .wSw ∨ s.cbh x = true) → s.holder = some x
  cbP  : ∀ x, s.cbh x = true → (s.pc x = .wQ ∨ s.pc x = .wWoken)
  car  : ∀ u x, (s.pc u = .sgP x ∨ s.pc u = .bcP x) → x ∈ s.deqd
  carU : ∀ u1 u2 x, (s.pc u1 = .sgP x ∨ s.pc u1 = .bcP x) → (s.pc u2 = .sgP x ∨ s.pc u2 = .bcP x) → u1 = u2
  dqC  : ∀ x, x ∈ s.deqd → ∃ u, s.pc u = .sgP x ∨ s.pc u = .bcP x
  bc   : ∀ b x, (s.pc b = .bc ∨ ∃ y, s.pc b = .bcP y) → x ∈ s.bsnap b → (s.wakes x > s.bcnt b x ∨ x ∈ s.cq)
  mono : ∀ b x, s.bcnt b x ≤ s.wakes x ∨ (s.pc b ≠ .bc ∧ ∀ y, s.pc b ≠ .bcP y)

theorem inv_init : Inv init := by
  constructor <;> simp [init]

end MythVerif.Cond
