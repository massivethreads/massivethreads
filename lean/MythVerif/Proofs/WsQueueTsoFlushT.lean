import MythVerif.Proofs.WsQueueTsoParts
/-! Drains from the buffer of a participant other than the owner.  Such a buffer is non-empty only
    while its participant holds the lock (`thief_buf_shape`), so the owner is outside its locked
    sections and every other participant is at an unlocked program counter: their clauses either
    do not read the words written or are vacuous.  No case split on the owner's program counter
    is needed. -/
namespace MythVerif.WsqTso
open MythVerif.Wsq

/-- a non-empty buffer of a participant other than the owner: it holds the lock and the buffer is
    the pending `base` store of take / wsapi take / wsapi peek (increment or roll-back), the pending
    stores of trypass, or a store of the cache word -/
theorem thief_buf_shape (s : St) (h : Inv s) (p : Pid) (st : Sto) (rest : List Sto) (hb : s.bufT p = st :: rest) :
    s.lock = .thief p ∧
    ((∃ b, (s.tpc p = .tkf b ∨ s.tpc p = .wkf b ∨ s.tpc p = .vkf b) ∧ st = .base (b + 1) ∧ rest = [] ∧
        s.lb = b ∧ s.tr = false) ∨
     ((s.tpc p = .tk6 ∨ s.tpc p = .wk6 ∨ s.tpc p = .vu) ∧ st = .base s.lb ∧ rest = [] ∧ s.tr = true) ∨
     (∃ e, s.tpc p = .tp3 e ∧ st = .ptr (s.lb - 1) (some e) ∧ rest = []) ∨
     (∃ e ok, s.tpc p = .tp4 ok ∧ st = .ptr (s.lb - 1) (some e) ∧ rest = [.baseI (s.lb - 1) e]) ∨
     (∃ e ok, s.tpc p = .tp4 ok ∧ st = .baseI (s.lb - 1) e ∧ rest = [] ∧ s.ptr (s.lb - 1) = some e) ∨
     (∃ x, st = .cache x ∧
        ((∃ r, s.tpc p = .wk4u r ∧ rest = []) ∨ (∃ b, s.tpc p = .vk5 b ∧ rest = []) ∨
         (s.tpc p = .vu ∧ rest = [.base s.lb] ∧ s.tr = true)))) := by
  have hat := h.thiefAt p
  have hl := h.lockT p
  cases hpc : s.tpc p <;> rw [hpc] at hat hl <;>
    simp only [ThiefAt, hb, thiefLocked, TkfShape, Tk6Shape, Pu2Shape, InsShape, Wk4uShape, Vk5Shape, VuShape] at hat hl <;>
    grind

/-- The lock holder's buffer drains a store of `base` (`tr'` says whether the new value is the
    transient `lb + 1`) or of the cache word: the owner and the others read neither. -/
theorem Inv.thief_drain {s : St} {p : Pid} {buf' : List Sto} {base' : Int} {tr' : Bool} {c : Option Elem}
    (h : Inv s) (hl : s.lock = .thief p) (hbase : base' = s.lb + (if tr' = true then 1 else 0))
    (hn : tr' = true → notTrans (s.tpc p) = false) (hp : ThiefAt { s with tr := tr' } buf' (s.tpc p)) :
    Inv { s with bufT := upd s.bufT p buf', base := base', tr := tr', cache := c } := by
  obtain ⟨g, ho, ht⟩ := (inv_iff s).1 h
  refine (inv_iff _).2 ⟨?_, ho.of_unlocked (g.owner_unlocked hl) g.len rfl rfl rfl rfl rfl rfl (fun _ _ => rfl)
    (Int.le_refl _), thiefAt_updBuf g hl ht hp⟩
  cases g
  glob_step []

theorem f_T_inc (s : St) (p : Pid) (b : Int) : Inv s → s.lock = .thief p → s.bufT p = [.base (b + 1)] →
    (s.tpc p = .tkf b ∨ s.tpc p = .wkf b ∨ s.tpc p = .vkf b) → s.lb = b → s.tr = false →
    Inv (applySto { s with bufT := upd s.bufT p [] } (.base (b + 1))) := by
  intro h hl hb hpc hlb htr
  have hd : decide (b + 1 = s.lb + 1) = true := by simp [hlb]
  simp only [applySto, hd]
  refine h.thief_drain hl (by simp [hlb]) (fun _ => ?_) ?_
  all_goals rcases hpc with hpc | hpc | hpc <;> rw [hpc]
  all_goals first | rfl | exact ⟨hlb, Or.inr ⟨rfl, rfl⟩⟩

theorem f_T_rb (s : St) (p : Pid) : Inv s → s.lock = .thief p → s.bufT p = [.base s.lb] →
    (s.tpc p = .tk6 ∨ s.tpc p = .wk6 ∨ s.tpc p = .vu) → s.tr = true →
    Inv (applySto { s with bufT := upd s.bufT p [] } (.base s.lb)) := by
  intro h hl hb hpc htr
  have hd : decide (s.lb = s.lb + 1) = false := by simp; omega
  simp only [applySto, hd]
  refine h.thief_drain hl (by simp) nofun ?_
  rcases hpc with hpc | hpc | hpc <;> rw [hpc]
  · exact Or.inr ⟨rfl, rfl⟩
  · exact Or.inr ⟨rfl, rfl⟩
  · exact Or.inr (Or.inr ⟨rfl, rfl⟩)

theorem f_T_cache (s : St) (p : Pid) (x : Option Elem) (rest : List Sto) : Inv s → s.lock = .thief p →
    s.bufT p = .cache x :: rest →
    ((∃ r, s.tpc p = .wk4u r ∧ rest = []) ∨ (∃ b, s.tpc p = .vk5 b ∧ rest = []) ∨
     (s.tpc p = .vu ∧ rest = [.base s.lb] ∧ s.tr = true)) →
    Inv (applySto { s with bufT := upd s.bufT p rest } (.cache x)) := by
  intro h hl hb hpc
  have hat := h.thiefAt p
  have hnr := thief_not_resetting s h p hl
  have hbase := h.lbase hnr
  have htrF := h.trF p hl
  simp only [applySto]
  refine h.thief_drain (tr' := s.tr) hl hbase (fun ht => ?_) ?_
  · cases hn : notTrans (s.tpc p) with
    | false => rfl
    | true => rw [htrF hn] at ht; cases ht
  · rcases hpc with ⟨r, hpc, rfl⟩ | ⟨b, hpc, rfl⟩ | ⟨hpc, rfl, htr⟩ <;> rw [hpc] at hat ⊢
    · exact ⟨hat.1, Or.inr rfl⟩
    · exact ⟨hat.1, hat.2.1, Or.inl rfl⟩
    · exact Or.inr (Or.inl ⟨rfl, htr⟩)

/-- the slot store of trypass drains: the slot is below the window -/
theorem f_T_ptr (s : St) (p : Pid) (e0 : Elem) (rest : List Sto) (h : Inv s) (hl : s.lock = .thief p)
    (h0 : s.bufT p = .ptr (s.lb - 1) (some e0) :: rest) (h1 : s.tpc p = .tp3 e0 ∨ ∃ ok, s.tpc p = .tp4 ok) :
    Inv (applySto { s with bufT := upd s.bufT p rest } (.ptr (s.lb - 1) (some e0))) := by
  obtain ⟨g, ho, ht⟩ := (inv_iff s).1 h
  have hat := ht p
  simp only [applySto]
  refine (inv_iff _).2 ⟨?_, ho.of_unlocked (g.owner_unlocked hl) g.len rfl rfl rfl rfl rfl rfl
    (fun i hi => upd_other _ _ _ _ (by omega)) (Int.le_refl _), thiefAt_updBuf g hl ht ?_⟩
  · have hmwin := g.mwin
    cases g
    constructor
    case mwin => intro k hk hk2; rw [← hmwin k hk hk2]; exact upd_other _ _ _ _ (by show s.lb + k ≠ s.lb - 1; omega)
    all_goals assumption
  · rcases h1 with hpc | ⟨ok, hpc⟩ <;> rw [hpc] at hat ⊢ <;> simp only [ThiefAt, Pu2Shape, InsShape, h0] at hat ⊢
    all_goals grind [upd_apply]

theorem getLast?_cons_base (e : Elem) (A : List Elem) (x : Option Elem) (hA : A ≠ [] → x = A.getLast?)
    (h0 : A = [] → x = some e) : x = (e :: A).getLast? := by
  cases A with
  | nil => simpa using h0 rfl
  | cons a t => rw [getLast?_tail_of_length e _ (by simp)]; exact hA (by simp)

/-- an insertion at the base side leaves the shapes at the top side alone -/
theorem carry_cons (bufO : List Sto) (top lt : Int) (ptr : Int → Option Elem) (A : List Elem) (e : Elem)
    (h : CarryShape bufO top lt ptr A) : CarryShape bufO top lt ptr (e :: A) := by
  rcases h with h | ⟨h1, h2, h3, h4⟩ | ⟨e', h1, h2, h4⟩
  · exact Or.inl h
  · exact Or.inr (Or.inl ⟨h1, h2, by simp, by rw [h4, getLast?_tail_of_length e A h3]⟩)
  · have hA : A ≠ [] := by intro hA; simp [hA] at h4
    exact Or.inr (Or.inr ⟨e', h1, h2, by rw [getLast?_tail_of_length e A hA]; exact h4⟩)

theorem pof_cons (bufO : List Sto) (top t : Int) (ptr : Int → Option Elem) (A : List Elem) (e : Elem)
    (h : PofShape bufO top ptr A t) (h0 : A = [] → ptr t = some e) : PofShape bufO top ptr (e :: A) t := by
  rcases h with h | ⟨h1, h2, h3⟩ | ⟨h1, h2, h3, h4⟩ | ⟨e', h1, h2, h4⟩
  · exact Or.inl h
  · exact Or.inr (Or.inl ⟨h1, h2, fun _ => getLast?_cons_base e A _ h3 h0⟩)
  · exact Or.inr (Or.inr (Or.inl ⟨h1, h2, by simp, by rw [h4, getLast?_tail_of_length e A h3]⟩))
  · have hA : A ≠ [] := by intro hA; simp [hA] at h4
    exact Or.inr (Or.inr (Or.inr ⟨e', h1, h2, by rw [getLast?_tail_of_length e A hA]; exact h4⟩))

/-- the linearization point of trypass: its inserting `base` store drains -/
theorem f_T_baseI (s : St) (p : Pid) (e0 : Elem) (ok : Bool) : Inv s → s.lock = .thief p →
    s.bufT p = [.baseI (s.lb - 1) e0] → s.tpc p = .tp4 ok → s.ptr (s.lb - 1) = some e0 →
    Inv (applySto { s with bufT := upd s.bufT p [] } (.baseI (s.lb - 1) e0)) := by
  intro h hl h0 h1 h2
  obtain ⟨g, ho, ht⟩ := (inv_iff s).1 h
  have hu := g.owner_unlocked hl
  have hlen := g.len
  have hA0 : ∀ t, s.lt = t + 1 → s.A = [] → s.ptr t = some e0 := by
    intro t ht hA; rw [hA] at hlen; rw [← h2]; congr 1; simp at hlen; omega
  simp only [applySto]
  refine (inv_iff _).2 ⟨?_, ?_, thiefAt_updBuf g hl ht (by rw [h1]; exact Or.inr (Or.inr rfl))⟩
  · have hmw := mwin_cons s.A s.ptr s.lb s.top _ e0 g.mwin h2
    have htr := g.trF p hl (by rw [h1]; rfl)
    cases g
    constructor
    case mwin => exact hmw
    all_goals first | assumption | grind
  · show OwnerAt _ s.opc
    cases hopc : s.opc <;> rw [hopc] at ho hu <;> try cases (hu : true = false)
    case idle | pu0 | pq | po1 | ptl | cll => exact carry_cons _ _ _ _ _ e0 ho
    case pu0f => exact ⟨carry_cons _ _ _ _ _ e0 ho.1, ho.2⟩
    case pof t => exact ⟨ho.1, pof_cons _ _ _ _ _ e0 ho.2 (hA0 t ho.1)⟩
    case po2 t | pol t =>
      obtain ⟨a, b, c, d⟩ := ho
      exact ⟨a, b, c, fun _ => getLast?_cons_base e0 s.A _ d (hA0 t c)⟩
    case po3 t x => obtain ⟨a, b, c, d, e, f⟩ := ho; exact ⟨a, b, c, d, by show s.lb - 1 ≤ t; omega, f⟩
    all_goals exact ho

end MythVerif.WsqTso
