import MythVerif.Proofs.DagRecTotals
/-! The bottom-up critical path (`t_inf`) equals the latest earliest-finish time under the
top-down `est` propagation the recorder performs at record time. -/
namespace MythVerif.DagRec

/-- critical path of the task a create view stands for (0 for other views) -/
def View.sub (x : View) : Nat :=
  match x.i.c.kind, x.child with
  | .createTask, some c => c.c.tinf
  | _, _ => 0

/-- earliest finish of a chain of siblings that starts at earliest-start time `e` -/
def chainFinish (e : Nat) : List View → Nat
  | [] => e
  | x :: r => Nat.max (e + x.i.c.tinf + x.sub) (chainFinish (e + x.i.c.tinf) r)

def sumTinf : List View → Nat
  | [] => 0
  | x :: r => x.i.c.tinf + sumTinf r

theorem chainFinish_ge_sum (xs : List View) : ∀ e, e + sumTinf xs ≤ chainFinish e xs := by
  induction xs with
  | nil => intro e; simp [chainFinish, sumTinf]
  | cons x r ih =>
    intro e
    have := ih (e + x.i.c.tinf)
    simp only [chainFinish, sumTinf, Nat.max_def]; split <;> omega

theorem chainFinish_ge (xs : List View) (e : Nat) : e ≤ chainFinish e xs := by
  have := chainFinish_ge_sum xs e; omega

theorem chainFinish_shift (xs : List View) : ∀ e d, chainFinish (e + d) xs = chainFinish e xs + d := by
  induction xs with
  | nil => intro e d; simp [chainFinish]
  | cons x r ih =>
    intro e d
    have := ih (e + x.i.c.tinf) d
    simp only [chainFinish]
    rw [show e + d + x.i.c.tinf = e + x.i.c.tinf + d by omega, this]
    simp only [Nat.max_def]; split <;> split <;> omega

theorem View.sub_none (x : View) (h : x.child = none) : x.sub = 0 := by
  unfold View.sub; split <;> simp_all

/-- one iteration: the serial sum grows by the child's `t_inf`; the running maximum takes in the
    created task's critical path (stated modulo `max` with the new serial sum, which saves the
    case distinction in what follows) -/
theorem accStep_tinf (v : Variant) (a : Acc) (x : View) (h : Bool) :
    (accStep v a x h).s.c.tinf = a.s.c.tinf + x.i.c.tinf ∧
    Nat.max (accStep v a x h).tinfMax (a.s.c.tinf + x.i.c.tinf) =
      Nat.max a.tinfMax (a.s.c.tinf + x.i.c.tinf + x.sub) := by
  unfold accStep View.sub
  split <;> (try split) <;> (try split) <;> simp_all [Nat.max_def] <;> (repeat' split) <;> omega

theorem accLoop_tinf (v : Variant) (xs : List View) : ∀ a : Acc,
    Nat.max (accLoop v a xs).tinfMax (accLoop v a xs).s.c.tinf = Nat.max a.tinfMax (chainFinish a.s.c.tinf xs) := by
  induction xs with
  | nil => intro a; simp [accLoop, chainFinish]
  | cons x r ih =>
    intro a
    obtain ⟨h1, h2⟩ := accStep_tinf v a x (!r.isEmpty)
    have := chainFinish_ge r (a.s.c.tinf + x.i.c.tinf)
    simp only [accLoop, ih, chainFinish, h1]
    simp only [Nat.max_def] at h2 ⊢
    repeat' split at h2
    all_goals repeat' split
    all_goals omega

theorem accumulate_tinf (v : Variant) (k : NKind) (xs : List View) (h : xs ≠ []) :
    (accumulate v k xs).c.tinf = chainFinish 0 xs := by
  cases xs with
  | nil => exact absurd rfl h
  | cons x r =>
    have := accLoop_tinf v (x :: r) { s := accInit k x ((x :: r).getLast?.getD x), tinfMax := 0 }
    simp only [accumulate, accFinish, this]
    simp [accInit]

/-! #### critical path never exceeds work -/

theorem chainFinish_le (xs : List View) (h : ∀ x ∈ xs, x.i.c.tinf + x.sub ≤ x.t1) :
    ∀ e, chainFinish e xs ≤ e + sumT1 xs := by
  induction xs with
  | nil => intro e; simp [chainFinish, sumT1]
  | cons x r ih =>
    intro e
    have h1 := h x (by simp)
    have h2 := ih (fun y hy => h y (by simp [hy])) (e + x.i.c.tinf)
    simp only [chainFinish, sumT1, Nat.max_def]; split <;> omega

theorem accumulate_le (v : Variant) (k : NKind) (xs : List View)
    (hx : ∀ x ∈ xs, x.i.c.tinf ≤ x.i.c.t1 ∧ ∀ c, x.child = some c → c.c.tinf ≤ c.c.t1) :
    (accumulate v k xs).c.tinf ≤ (accumulate v k xs).c.t1 := by
  cases xs with
  | nil => simp [accumulate]
  | cons x r =>
    rw [accumulate_tinf _ _ _ (by simp), (accumulate_closed _ _ _ (by simp)).1]
    have := chainFinish_le (x :: r) (fun y hy => by
      obtain ⟨h1, h2⟩ := hx y hy
      unfold View.sub View.t1
      split <;> simp_all <;> omega) 0
    omega

mutual
/-- `t_inf ≤ t_1` for the info of every node, for every tree (no grammar needed) -/
theorem viewTree_le (v : Variant) : ∀ (t : Tree) (c : Cursor),
    (viewTree v t c).1.i.c.tinf ≤ (viewTree v t c).1.i.c.t1 ∧
      ∀ ci, (viewTree v t c).1.child = some ci → ci.c.tinf ≤ ci.c.t1
  | .ival k r, c => by simp [viewTree, endInterval]
  | .create r child, c => by
    have := (viewTree_le v child (cursorAfter (endInterval .createTask r c) .create)).1
    simp [viewTree, endInterval] at this ⊢
    exact this
  | .group k f, c => by
    simp only [viewTree]
    exact ⟨accumulate_le v k _ (viewForest_le v f c), by simp⟩
theorem viewForest_le (v : Variant) : ∀ (f : Forest) (c : Cursor),
    ∀ x ∈ (viewForest v f c).1, x.i.c.tinf ≤ x.i.c.t1 ∧ ∀ ci, x.child = some ci → ci.c.tinf ≤ ci.c.t1
  | .nil, c => by simp [viewForest]
  | .cons t rest, c => by
    intro x hx
    simp only [viewForest, List.mem_cons] at hx
    rcases hx with rfl | hx
    · exact viewTree_le v t c
    · exact viewForest_le v rest _ x hx
end

/-! #### the task's `est` after a section -/

/-- siblings started one after the other from earliest-start time `e`: each child's `est` is the
    running sum, each created task starts where its create interval ends -/
def EstChain : Nat → List View → Prop
  | _, [] => True
  | e, x :: r => x.i.c.est = e ∧
      (∀ ct, x.i.c.kind = .createTask → x.child = some ct → ct.c.est = e + x.i.c.tinf) ∧
      EstChain (e + x.i.c.tinf) r

theorem rfwStep_est (c : Cursor) (x : View) :
    (rfwStep c x).est = match x.i.c.kind, x.child with
      | .createTask, some ct => Nat.max c.est (ct.c.est + ct.c.tinf)
      | _, _ => c.est := by
  unfold rfwStep
  split
  · simp only [Nat.max_def]; split <;> split <;> simp_all <;> omega
  · split <;> simp_all

theorem rfw_est_ge (xs : List View) : ∀ c : Cursor, c.est ≤ (xs.foldl rfwStep c).est := by
  induction xs with
  | nil => intro c; exact Nat.le_refl _
  | cons x r ih =>
    intro c
    refine Nat.le_trans ?_ (ih (rfwStep c x))
    rw [rfwStep_est]
    split
    · exact Nat.le_max_left _ _
    · exact Nat.le_refl _

/-- the loop of `dr_return_from_wait_tasks__` over an `EstChain` takes in what `chainFinish` adds
    to the serial sum: the finish times of the created tasks -/
theorem rfw_est_chain (xs : List View) : ∀ e (c : Cursor), EstChain e xs →
    Nat.max (xs.foldl rfwStep c).est (e + sumTinf xs) = Nat.max c.est (chainFinish e xs) := by
  induction xs with
  | nil => intro e c _; simp [sumTinf, chainFinish]
  | cons x r ih =>
    intro e c h
    obtain ⟨_, h2, h3⟩ := h
    have hge := chainFinish_ge r (e + x.i.c.tinf)
    have hx : Nat.max (rfwStep c x).est (e + x.i.c.tinf) = Nat.max c.est (e + x.i.c.tinf + x.sub) := by
      rw [rfwStep_est]
      unfold View.sub
      split
      · rename_i ct hk hch
        simp only [h2 ct hk hch, Nat.max_def]; repeat' split
        all_goals omega
      · rfl
    have := ih (e + x.i.c.tinf) (rfwStep c x) h3
    simp only [List.foldl_cons, sumTinf, chainFinish]
    rw [show e + (x.i.c.tinf + sumTinf r) = e + x.i.c.tinf + sumTinf r by omega, this]
    simp only [Nat.max_def] at hx ⊢
    repeat' split at hx
    all_goals repeat' split
    all_goals omega

theorem estChain_last (xs : List View) : ∀ e p, EstChain e xs → xs.getLast? = some p →
    p.i.c.est + p.i.c.tinf = e + sumTinf xs := by
  induction xs with
  | nil => intro e p _ h; simp at h
  | cons x r ih =>
    intro e p h hl
    obtain ⟨h1, _, h3⟩ := h
    cases r with
    | nil => simp at hl; subst hl; simp [sumTinf, h1]
    | cons y r' =>
      rw [List.getLast?_cons_cons] at hl
      have := ih (e + x.i.c.tinf) p h3 hl
      simp only [sumTinf] at this ⊢; omega

/-- after a section whose children form an `EstChain` from `e`, the task continues at
    earliest-start time `chainFinish e xs` -/
theorem returnFromWait_est (xs : List View) (e : Nat) (h : EstChain e xs) (hne : xs ≠ []) :
    (returnFromWait xs).est = chainFinish e xs := by
  cases hp : xs.getLast? with
  | none => exact absurd (List.getLast?_eq_none_iff.mp hp) hne
  | some p =>
    simp only [returnFromWait, hp]
    have h1 := estChain_last xs e p h hp
    have h2 := rfw_est_chain xs e { est := p.i.c.est + p.i.c.tinf, readyT := p.i.c.end_.t, ek := .waitCont } h
    have h3 := rfw_est_ge xs { est := p.i.c.est + p.i.c.tinf, readyT := p.i.c.end_.t, ek := .waitCont }
    have h4 := chainFinish_ge_sum xs e
    simp only [Nat.max_def] at h2 h3
    repeat' split at h2
    all_goals omega

theorem maxFinish_append (a b : List Info) : maxFinish (a ++ b) = Nat.max (maxFinish a) (maxFinish b) := by
  induction a with
  | nil => simp [maxFinish]
  | cons i r ih => simp only [List.cons_append, maxFinish, ih, Nat.max_def]; repeat' split
                   all_goals omega

theorem leafInfosForest_cons (v : Variant) (x : Tree) (rest : Forest) (c : Cursor) :
    leafInfosForest v (.cons x rest) c = leafInfosTree v x c ++ leafInfosForest v rest (viewTree v x c).2 := by
  rw [leafInfosForest]

theorem chainFinish_zero (xs : List View) (e : Nat) : chainFinish e xs = e + chainFinish 0 xs := by
  have := chainFinish_shift xs 0 e
  rw [Nat.zero_add] at this; omega

mutual
theorem viewTree_span (v : Variant) : ∀ (t : Tree) (c : Cursor),
    (WnAny t → (viewTree v t c).1.i.c.est = c.est ∧
        maxFinish (leafInfosTree v t c) = c.est + (viewTree v t c).1.i.c.tinf + (viewTree v t c).1.sub ∧
        (∀ ct, (viewTree v t c).1.i.c.kind = .createTask → (viewTree v t c).1.child = some ct →
          ct.c.est = c.est + (viewTree v t c).1.i.c.tinf)) ∧
    (∀ b, wnItem b t = true → (viewTree v t c).2.est = c.est + (viewTree v t c).1.i.c.tinf)
  | .ival k r, c => by
    refine ⟨fun _ => ⟨by simp [viewTree, endInterval], ?_, by simp [viewTree]⟩, ?_⟩
    · simp [viewTree, leafInfosTree, maxFinish, View.sub_none, endInterval]
    · intro b h
      simp [wnItem] at h; subst h
      simp [viewTree, cursorAfter, endInterval]
  | .create r child, c => by
    refine ⟨fun h => ?_, fun b _ => by simp [viewTree, cursorAfter, endInterval]⟩
    have hw := wnAny_create h
    obtain ⟨ih1, ih2, _⟩ := (viewTree_span v child (cursorAfter (endInterval .createTask r c) .create)).1
      (wnAny_of_task hw)
    have hs : (viewTree v child (cursorAfter (endInterval .createTask r c) .create)).1.sub = 0 := by
      obtain ⟨f, rfl, _⟩ := wnTask_group hw
      exact View.sub_none _ (by simp [viewTree])
    rw [hs] at ih2
    refine ⟨by simp [viewTree, endInterval], ?_, ?_⟩
    · simp only [leafInfosTree, maxFinish, ih2]
      simp only [viewTree, View.sub, endInterval, cursorAfter, Nat.max_def]
      split <;> omega
    · intro ct _ hch
      simp only [viewTree, Option.some.injEq] at hch
      subst hch
      rw [ih1]
      simp [viewTree, cursorAfter, endInterval]
  | .group k f, c => by
    refine ⟨fun h => ?_, fun b h => ?_⟩
    · obtain ⟨b, hb⟩ := wnAny_group h
      obtain ⟨hc, hm⟩ := viewForest_span v f c b hb
      have hne := wnForest_views_ne v b f c hb
      simp only [viewTree, leafInfosTree]
      rw [View.sub_none _ rfl, accumulate_tinf v k _ hne, hm, chainFinish_zero _ c.est]
      refine ⟨?_, rfl, by simp⟩
      cases hx : (viewForest v f c).1 with
      | nil => exact absurd hx hne
      | cons x r => rw [hx] at hc; rw [accumulate_est]; exact hc.1
    · simp only [wnItem, Bool.and_eq_true, beq_iff_eq] at h
      obtain ⟨rfl, hf⟩ := h
      obtain ⟨hc, _⟩ := viewForest_span v f c false hf
      have hne := wnForest_views_ne v false f c hf
      simp only [viewTree, if_true]
      rw [returnFromWait_est _ c.est hc hne, accumulate_tinf v _ _ hne, chainFinish_zero _ c.est]
theorem viewForest_span (v : Variant) : ∀ (f : Forest) (c : Cursor) (b : Bool), wnForest b f = true →
    EstChain c.est (viewForest v f c).1 ∧
      maxFinish (leafInfosForest v f c) = chainFinish c.est (viewForest v f c).1
  | .nil, c, b, h => by simp [wnForest] at h
  | .cons t .nil, c, b, h => by
    simp only [wnForest] at h
    obtain ⟨h1, h2, h3⟩ := (viewTree_span v t c).1 (wnAny_of_last h)
    simp only [viewForest, leafInfosForest, EstChain, chainFinish, List.append_nil, and_true]
    refine ⟨⟨h1, h3⟩, ?_⟩
    rw [h2]; simp only [Nat.max_def]; split <;> omega
  | .cons t (.cons t' rest), c, b, h => by
    simp only [wnForest, Bool.and_eq_true] at h
    obtain ⟨h1, h2, h3⟩ := (viewTree_span v t c).1 (wnAny_of_item h.1)
    obtain ⟨g1, g2⟩ := viewForest_span v (.cons t' rest) (viewTree v t c).2 b h.2
    rw [(viewTree_span v t c).2 b h.1] at g1 g2
    rw [leafInfosForest_cons, maxFinish_append, h2, g2, viewForest_cons]
    exact ⟨⟨h1, h3, g1⟩, rfl⟩
end

end MythVerif.DagRec
