import MythVerif.Model.ParFor
/-! helper lemmas for C17: `parallel_for` recursions, the sequential loop, tilings -/
namespace MythVerif.ParFor
open MythVerif.Bulk

/-! ### truncated division by two -/

theorem tdiv2_nonneg (x : Int) (h : 0 ≤ x) : x.tdiv 2 = x / 2 := Int.tdiv_eq_ediv_of_nonneg h

/-- truncated division of a non-positive number by a positive one rounds up -/
theorem tdiv_of_nonpos (x s : Int) (hx : x ≤ 0) : x.tdiv s = -((-x) / s) := by
  rw [← Int.tdiv_eq_ediv_of_nonneg (by omega), Int.neg_tdiv, Int.neg_neg]

theorem tdiv2_nonpos (x : Int) (h : x ≤ 0) : x.tdiv 2 ≤ 0 ∧ x ≤ x.tdiv 2 := by
  have := tdiv_of_nonpos x 2 h
  omega

theorem tdiv_nonpos_of_nonpos (x s : Int) (hx : x ≤ 0) (hs : 0 < s) : x.tdiv s ≤ 0 := by
  have := tdiv_of_nonpos x s hx
  have : 0 ≤ (-x) / s := Int.ediv_nonneg (by omega) (by omega)
  omega

/-! ### index lists -/

/-- `first + (a+k)*step` for `k < n` -/
def idx (first step a : Int) (n : Nat) : List Int :=
  (List.range n).map fun (k : Nat) => first + (a + (k : Int)) * step

theorem idx_append (first step a : Int) (m n : Nat) :
    idx first step a m ++ idx first step (a + m) n = idx first step a (m + n) := by
  unfold idx
  rw [List.range_add, List.map_append, List.map_map]
  congr 1
  apply List.map_congr_left
  intro k _
  simp only [Function.comp]
  rw [Int.natCast_add, Int.add_assoc]

theorem idx_split (first step a c b : Int) (h1 : a ≤ c) (h2 : c ≤ b) :
    idx first step a (c - a).toNat ++ idx first step c (b - c).toNat =
      idx first step a (b - a).toNat := by
  obtain ⟨m, rfl⟩ : ∃ m : Nat, c = a + (m : Int) := ⟨(c - a).toNat, by omega⟩
  obtain ⟨n, rfl⟩ : ∃ n : Nat, b = a + (m : Int) + (n : Int) := ⟨(b - (a + m)).toNat, by omega⟩
  have e1 : (a + (m : Int) - a).toNat = m := by omega
  have e2 : (a + (m : Int) + (n : Int) - (a + (m : Int))).toNat = n := by omega
  have e3 : (a + (m : Int) + (n : Int) - a).toNat = m + n := by omega
  rw [e1, e2, e3, idx_append]

/-! ### the sequential loop -/

/-- if `n` is the trip count (`i + (n-1)*step < last ≤ i + n*step`), the loop visits
    `i, i+step, …` (`n` of them) -/
theorem seqLoopF_eq (last step : Int) (hs : 0 < step) : ∀ (n fuel : Nat) (i : Int),
    n ≤ fuel → last ≤ i + (n : Int) * step → (0 < n → i + ((n : Int) - 1) * step < last) →
    seqLoopF last step fuel i = (List.range n).map fun (k : Nat) => i + (k : Int) * step := by
  intro n
  induction n with
  | zero =>
    intro fuel i _ h1 _
    simp only [Int.natCast_zero, Int.zero_mul, Int.add_zero] at h1
    cases fuel with
    | zero => rfl
    | succ f => simp only [seqLoopF]; rw [if_neg (by omega)]; rfl
  | succ n ih =>
    intro fuel i hf h1 h2
    cases fuel with
    | zero => omega
    | succ f =>
      have hn : 0 ≤ (n : Int) * step := Int.mul_nonneg (by omega) (by omega)
      have h2' := h2 (by omega)
      have e1 : ((n + 1 : Nat) : Int) - 1 = (n : Int) := by omega
      rw [e1] at h2'
      have e2 : ((n + 1 : Nat) : Int) * step = (n : Int) * step + step := by
        rw [Int.natCast_add, Int.add_mul]; simp
      rw [e2] at h1
      simp only [seqLoopF]
      rw [if_pos (by omega)]
      rw [ih f (i + step) (by omega) (by omega) (by
        intro hpos
        have e3 : (n : Int) * step = ((n : Int) - 1) * step + step := by
          rw [Int.sub_mul]; simp
        omega)]
      rw [List.range_succ_eq_map]
      simp only [List.map_cons, List.map_map, Int.natCast_zero, Int.zero_mul, Int.add_zero]
      congr 1
      apply List.map_congr_left
      intro k _
      simp only [Function.comp, Nat.succ_eq_add_one]
      rw [Int.natCast_add, Int.add_mul]; simp
      omega

/-- bounds of the trip count `(last - first + step - 1) / step` -/
theorem count_bounds (first last step : Int) (hs : 0 < step) (h : first < last) :
    0 < count first last step ∧
    last ≤ first + count first last step * step ∧
    first + (count first last step - 1) * step < last := by
  unfold count
  rw [Int.tdiv_eq_ediv_of_nonneg (by omega)]
  have a1 := Int.ediv_mul_le (last - first + step - 1) (b := step) (by omega)
  have a2 := Int.lt_ediv_add_one_mul_self (last - first + step - 1) hs
  rw [Int.add_mul] at a2
  simp only [Int.one_mul] at a2
  have a3 : ((last - first + step - 1) / step - 1) * step
      = (last - first + step - 1) / step * step - step := by rw [Int.sub_mul]; simp
  have a4 : 1 ≤ (last - first + step - 1) / step :=
    Int.le_ediv_of_mul_le hs (by omega)
  refine ⟨by omega, by omega, by omega⟩

/-- the trip count is at most the width of the range because `step ≥ 1` -/
theorem count_le (first last step : Int) (hs : 0 < step) (h : first < last) :
    count first last step ≤ last - first := by
  obtain ⟨_, _, c2⟩ := count_bounds first last step hs h
  have : (count first last step - 1) * 1 ≤ (count first last step - 1) * step :=
    Int.mul_le_mul_of_nonneg_left (by omega) (by omega)
  omega

theorem count_one (first last : Int) (h : first < last) : count first last 1 = last - first := by
  unfold count
  rw [Int.tdiv_eq_ediv_of_nonneg (by omega)]
  omega

theorem parFor_eq_parForStep (first last : Int) (fuel : Nat) :
    parFor first last fuel = parForStep first last 1 fuel := by
  unfold parFor parForStep
  by_cases h : first < last
  · rw [if_neg (by omega), if_neg (by omega), count_one first last h]
  · rw [if_pos h, if_pos h]

theorem count_nonpos (first last step : Int) (hs : 0 < step) (h : ¬ first < last) :
    count first last step ≤ 0 := by
  unfold count
  by_cases hx : 0 ≤ last - first + step - 1
  · rw [Int.tdiv_eq_ediv_of_nonneg hx, Int.ediv_eq_zero_of_lt hx (by omega)]
    omega
  · exact tdiv_nonpos_of_nonpos _ _ (by omega) hs

/-- the sequential loop over a non-empty range with positive step visits
    `first + k*step`, `k < count` -/
theorem seqLoop_eq_idx (first last step : Int) (hs : 0 < step) (h : first < last) :
    seqLoop first last step = idx first step 0 (count first last step).toNat := by
  obtain ⟨c0, c1, c2⟩ := count_bounds first last step hs h
  have hc : ((count first last step).toNat : Int) = count first last step :=
    Int.toNat_of_nonneg (by omega)
  unfold seqLoop
  rw [seqLoopF_eq last step hs (count first last step).toNat (last - first).toNat first
      ?_ (by rw [hc]; exact c1) (by intro _; rw [hc]; exact c2)]
  · unfold idx; simp
  · have := count_le first last step hs h
    omega

/-- the sequential loop over an empty or reversed range does nothing -/
theorem seqLoop_empty (first last step : Int) (h : ¬ first < last) : seqLoop first last step = [] := by
  unfold seqLoop
  cases hf : (last - first).toNat with
  | zero => rfl
  | succ f => simp only [seqLoopF]; rw [if_neg h]

/-- a chunk loop `[first + x*step, first + y*step)` visits the indices `x … y-1` -/
theorem seqLoop_chunk (first step x y : Int) (hs : 0 < step) (hxy : x < y) :
    seqLoop (first + x * step) (first + y * step) step = idx first step x (y - x).toNat := by
  have hn : ((y - x).toNat : Int) = y - x := Int.toNat_of_nonneg (by omega)
  have e : y * step = x * step + (y - x) * step := by rw [← Int.add_mul]; congr 1; omega
  unfold seqLoop
  rw [seqLoopF_eq (first + y * step) step hs (y - x).toNat _ (first + x * step) ?_
      (by rw [hn, e]; omega)
      (by intro _; rw [hn, e, Int.sub_mul]; simp; omega)]
  · unfold idx
    apply List.map_congr_left
    intro k _
    rw [Int.add_mul]; omega
  · have h1 : (y - x) * 1 ≤ (y - x) * step := Int.mul_le_mul_of_nonneg_left (by omega) (by omega)
    have : first + y * step - (first + x * step) = (y - x) * step := by rw [e]; omega
    rw [this]; omega

/-! ### `parallel_for_aux` -/

theorem auxF_mono_le (first step : Int) : ∀ (fuel fuel' : Nat) (a b : Int) (t : FJ Ev), fuel ≤ fuel' →
    auxF first step fuel a b = some t → auxF first step fuel' a b = some t := by
  intro fuel
  induction fuel with
  | zero => intro _ a b t _ h; cases h
  | succ n ih =>
    intro fuel' a b t hle h
    obtain ⟨m, rfl⟩ : ∃ m, fuel' = m + 1 := ⟨fuel' - 1, by omega⟩
    simp only [auxF] at h ⊢
    split at h
    · rwa [if_pos ‹_›]
    · rw [if_neg ‹_›]
      split at h
      · rename_i hl hr
        simp only [ih m _ _ _ (by omega) hl, ih m _ _ _ (by omega) hr]
        exact h
      · cases h

/-- **termination and result**: on `a < b` the recursion finishes within fuel `b - a` and its
    one-worker order calls the body on `first + k*step`, `a ≤ k < b`, in increasing order -/
theorem auxF_spec (first step : Int) : ∀ (fuel : Nat) (a b : Int), a < b → (b - a).toNat ≤ fuel →
    ∃ t, auxF first step fuel a b = some t ∧ t.seq = (idx first step a (b - a).toNat).map Ev.call := by
  intro fuel
  induction fuel with
  | zero => intro a b h1 h2; omega
  | succ n ih =>
    intro a b hab hf
    unfold auxF
    by_cases h1 : b - a = 1
    · rw [if_pos h1]
      refine ⟨_, rfl, ?_⟩
      simp [FJ.seq, idx, h1]
    · rw [if_neg h1, tdiv2_nonneg _ (by omega)]
      obtain ⟨l, hl, hls⟩ := ih a (a + (b - a) / 2) (by omega) (by omega)
      obtain ⟨r, hr, hrs⟩ := ih (a + (b - a) / 2) b (by omega) (by omega)
      simp only [hl, hr]
      refine ⟨_, rfl, ?_⟩
      simp only [FJ.seq, hls, hrs, List.nil_append, List.append_nil, ← List.map_append]
      congr 1
      exact idx_split first step a _ b (by omega) (by omega)

/-- **no base case**: on an empty or reversed index range `b ≤ a` the recursion of
    `parallel_for_aux` exhausts every fuel -/
theorem auxF_diverges (first step : Int) : ∀ (fuel : Nat) (a b : Int), b ≤ a →
    auxF first step fuel a b = none := by
  intro fuel
  induction fuel with
  | zero => intro a b _; rfl
  | succ n ih =>
    intro a b hba
    unfold auxF
    rw [if_neg (by omega)]
    have := tdiv2_nonpos (b - a) (by omega)
    simp only
    rw [ih a (a + (b - a).tdiv 2) (by omega)]

/-! ### tilings and the grain-size form -/

/-- `cs` tiles `[a,b)` from left to right with non-empty pieces of width ≤ `g` -/
def Tiles (g : Int) : Int → Int → List (Int × Int) → Prop
  | a, b, [] => a = b
  | a, b, c :: cs => c.1 = a ∧ a < c.2 ∧ c.2 - a ≤ g ∧ Tiles g c.2 b cs

theorem Tiles.append (g : Int) : ∀ (l : List (Int × Int)) (a c b : Int) (r : List (Int × Int)),
    Tiles g a c l → Tiles g c b r → Tiles g a b (l ++ r) := by
  intro l
  induction l with
  | nil => intro a c b r h1 h2; simp only [Tiles] at h1; subst h1; exact h2
  | cons x l ih =>
    intro a c b r h1 h2
    simp only [Tiles, List.cons_append] at h1 ⊢
    exact ⟨h1.1, h1.2.1, h1.2.2.1, ih _ _ _ _ h1.2.2.2 h2⟩

theorem Tiles.le (g : Int) : ∀ (l : List (Int × Int)) (a b : Int), Tiles g a b l → a ≤ b := by
  intro l
  induction l with
  | nil => intro a b h; simp only [Tiles] at h; omega
  | cons x l ih => intro a b h; simp only [Tiles] at h; have := ih _ _ h.2.2.2; omega

/-- every piece of a tiling is non-empty, at most `g` wide and inside `[a,b)` -/
theorem Tiles.mem (g : Int) : ∀ (l : List (Int × Int)) (a b : Int), Tiles g a b l →
    ∀ c ∈ l, a ≤ c.1 ∧ c.1 < c.2 ∧ c.2 - c.1 ≤ g ∧ c.2 ≤ b := by
  intro l
  induction l with
  | nil => intro a b _ c hc; simp at hc
  | cons x l ih =>
    intro a b h c hc
    simp only [Tiles] at h
    have hle := Tiles.le g l _ _ h.2.2.2
    rcases List.mem_cons.mp hc with rfl | hc
    · omega
    · have := ih _ _ h.2.2.2 c hc; omega

/-- the chunk loops of a tiling of `[a,b)` (index space) visit `a … b-1` once each, in order -/
theorem Tiles.covered_eq (first step g : Int) (hs : 0 < step) : ∀ (l : List (Int × Int)) (a b : Int),
    Tiles g a b l →
    covered step (l.map fun c => (first + c.1 * step, first + c.2 * step)) =
      idx first step a (b - a).toNat := by
  intro l
  induction l with
  | nil => intro a b h; simp only [Tiles] at h; subst h; simp [covered, idx]
  | cons x l ih =>
    intro a b h
    simp only [Tiles] at h
    obtain ⟨h1, h2, _, h4⟩ := h
    have hle := Tiles.le g l _ _ h4
    have ih' := ih _ _ h4
    simp only [covered, List.map_cons, List.flatMap_cons] at ih' ⊢
    rw [ih', h1, seqLoop_chunk first step a x.2 hs h2]
    exact idx_split first step a _ b (by omega) hle

theorem grainAuxF_mono_le (first step g : Int) : ∀ (fuel fuel' : Nat) (a b : Int) (t : FJ Ev),
    fuel ≤ fuel' → grainAuxF first step g fuel a b = some t →
    grainAuxF first step g fuel' a b = some t := by
  intro fuel
  induction fuel with
  | zero => intro _ a b t _ h; cases h
  | succ n ih =>
    intro fuel' a b t hle h
    obtain ⟨m, rfl⟩ : ∃ m, fuel' = m + 1 := ⟨fuel' - 1, by omega⟩
    simp only [grainAuxF] at h ⊢
    split at h
    · rwa [if_pos ‹_›]
    · rw [if_neg ‹_›]
      split at h
      · rename_i hl hr
        simp only [ih m _ _ _ (by omega) hl, ih m _ _ _ (by omega) hr]
        exact h
      · cases h

/-- **termination and result of the grain-size recursion** (`1 ≤ grain`, `a < b`): it finishes
    within fuel `b - a`; the body is called on chunks only, and the chunks are the image of a
    left-to-right tiling of `[a,b)` with pieces of width ≤ `grain` -/
theorem grainAuxF_spec (first step g : Int) (hg : 1 ≤ g) : ∀ (fuel : Nat) (a b : Int), a < b →
    (b - a).toNat ≤ fuel →
    ∃ t cs, grainAuxF first step g fuel a b = some t ∧ Tiles g a b cs ∧
      t.seq = cs.map fun c => Ev.chunk (first + c.1 * step) (first + c.2 * step) := by
  intro fuel
  induction fuel with
  | zero => intro a b h1 h2; omega
  | succ n ih =>
    intro a b hab hf
    unfold grainAuxF
    by_cases h1 : b - a ≤ g
    · rw [if_pos h1]
      refine ⟨_, [(a, b)], rfl, ?_, by simp [FJ.seq]⟩
      simp only [Tiles, and_true, true_and]; exact ⟨hab, h1⟩
    · rw [if_neg h1, tdiv2_nonneg (b - a) (by omega)]
      obtain ⟨l, cl, hl, tl, hls⟩ := ih a (a + (b - a) / 2) (by omega) (by omega)
      obtain ⟨r, cr, hr, tr, hrs⟩ := ih (a + (b - a) / 2) b (by omega) (by omega)
      simp only [hl, hr]
      refine ⟨_, cl ++ cr, rfl, Tiles.append g _ _ _ _ _ tl tr, ?_⟩
      simp [FJ.seq, hls, hrs]

/-- with `grain ≤ 0` a non-empty range is split for ever (outside the property's domain:
    no chunk of width ≤ 0 can cover an index) -/
theorem grainAuxF_diverges_nonpos_grain (first step g : Int) (hg : g ≤ 0) :
    ∀ (fuel : Nat) (a b : Int), a < b → grainAuxF first step g fuel a b = none := by
  intro fuel
  induction fuel with
  | zero => intro a b _; rfl
  | succ n ih =>
    intro a b hab
    unfold grainAuxF
    rw [if_neg (by omega), tdiv2_nonneg (b - a) (by omega)]
    simp only
    rw [ih (a + (b - a) / 2) b (by omega)]
    cases grainAuxF first step g n a (a + (b - a) / 2) <;> rfl

/-! ### the range-class form -/

theorem rangeF_mono (g : Int) : ∀ (fuel : Nat) (b e : Int) (t : FJ Ev),
    rangeF g fuel b e = some t → rangeF g (fuel + 1) b e = some t := by
  intro fuel
  induction fuel with
  | zero => intro b e t h; cases h
  | succ n ih =>
    intro b e t h
    rw [rangeF] at h ⊢
    split at h
    · rwa [if_pos ‹_›]
    · rw [if_neg ‹_›]
      split at h
      · rwa [if_pos ‹_›]
      · rw [if_neg ‹_›]
        simp only at h ⊢
        split at h
        · rename_i hl hr
          rw [ih _ _ _ hl, ih _ _ _ hr]
          exact h
        · cases h

/-- **range-class form** (`1 ≤ grain`): terminates; an empty range makes no call; otherwise the
    chunks tile `[b,e)` left to right with pieces of width ≤ grain -/
theorem rangeF_spec (g : Int) (hg : 1 ≤ g) : ∀ (fuel : Nat) (b e : Int), (e - b).toNat < fuel →
    ∃ t cs, rangeF g fuel b e = some t ∧ t.seq = cs.map (fun c => Ev.chunk c.1 c.2) ∧
      (if b < e then Tiles g b e cs else cs = []) := by
  intro fuel
  induction fuel with
  | zero => intro b e h; omega
  | succ n ih =>
    intro b e hf
    unfold rangeF
    by_cases h0 : b < e
    · rw [if_neg (by omega)]
      by_cases h1 : g < e - b
      · rw [if_neg (by omega), tdiv2_nonneg (e - b) (by omega)]
        obtain ⟨l, cl, hl, hls, tl⟩ := ih b (b + (e - b) / 2) (by omega)
        obtain ⟨r, cr, hr, hrs, tr⟩ := ih (b + (e - b) / 2) e (by omega)
        rw [if_pos (by omega)] at tl tr
        simp only [hl, hr]
        refine ⟨_, cl ++ cr, rfl, by simp [FJ.seq, hls, hrs], ?_⟩
        rw [if_pos h0]
        exact Tiles.append g _ _ _ _ _ tl tr
      · rw [if_pos h1]
        refine ⟨_, [(b, e)], rfl, by simp [FJ.seq], ?_⟩
        rw [if_pos h0]; simp only [Tiles, and_true, true_and]; exact ⟨h0, by omega⟩
    · rw [if_pos h0]
      exact ⟨_, [], rfl, by simp [FJ.seq], by rw [if_neg h0]⟩

/-! ### observations -/

theorem calls_map_call (l : List Int) : calls (l.map Ev.call) = l := by
  induction l <;> simp_all [calls]

theorem chunks_map_call (l : List Int) : chunks (l.map Ev.call) = [] := by
  induction l <;> simp_all [chunks]

theorem calls_map_chunk {α : Type} (f g : α → Int) (l : List α) :
    calls (l.map fun c => Ev.chunk (f c) (g c)) = [] := by
  induction l <;> simp_all [calls]

theorem chunks_map_chunk {α : Type} (f g : α → Int) (l : List α) :
    chunks (l.map fun c => Ev.chunk (f c) (g c)) = l.map fun c => (f c, g c) := by
  induction l <;> simp_all [chunks]

theorem calls_perm {s s' : List Ev} (h : s.Perm s') : (calls s).Perm (calls s') := h.filterMap _
theorem chunks_perm {s s' : List Ev} (h : s.Perm s') : (chunks s).Perm (chunks s') := h.filterMap _

end MythVerif.ParFor
