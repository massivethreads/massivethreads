import MythVerif.Proofs.WsQueueTsoInv
/-! Small lemmas about the buffer shapes and the owner's view through its buffer, the owner's clause of
    the TSO invariant as a function of its program counter, and tactics for invariant proofs that keep
    `h : Inv s` folded. -/
namespace MythVerif.WsqTso
open MythVerif.Wsq

@[simp] theorem code_pushRb : FenceCfg.code.pushRb = true := rfl
@[simp] theorem code_popFence : FenceCfg.code.popFence = true := rfl
@[simp] theorem code_takeFence : FenceCfg.code.takeFence = true := rfl
@[simp] theorem code_unlockFence : FenceCfg.code.unlockFence = true := rfl
@[simp] theorem code_wtakeFence : FenceCfg.code.wtakeFence = true := rfl
@[simp] theorem code_wpeekFence : FenceCfg.code.wpeekFence = true := rfl

theorem getLast?_tail_of_length (x : Elem) (A' : List Elem) (h : A' ≠ []) : (x :: A').getLast? = A'.getLast? := by
  cases A' with
  | nil => exact absurd rfl h
  | cons a t => simp [List.getLast?_cons_cons]

theorem dropLast_keep (A : List Elem) (h : 2 ≤ A.length) : A.dropLast ≠ [] ∧ A.dropLast.head? = A.head? := by
  cases A with
  | nil => simp at h
  | cons a t =>
    cases t with
    | nil => simp at h
    | cons b u => simp [List.dropLast]

theorem head?_append_of_ne (A : List Elem) (e : Elem) (h : A ≠ []) : (A ++ [e]).head? = A.head? := by
  cases A with
  | nil => exact absurd rfl h
  | cons a t => simp

theorem carry_viewTop (bufO : List Sto) (top lt : Int) (ptr : Int → Option Elem) (A : List Elem)
    (h : CarryShape bufO top lt ptr A) : viewTop bufO top = lt := by
  rcases h with ⟨h1, h2⟩ | ⟨h1, _⟩ | ⟨e, h1, _⟩ <;> simp [h1, viewTop, *]

theorem carry_viewBase (bufO : List Sto) (top lt : Int) (ptr : Int → Option Elem) (A : List Elem) (base : Int)
    (h : CarryShape bufO top lt ptr A) : viewBase bufO base = base := by
  rcases h with ⟨h1, _⟩ | ⟨h1, _⟩ | ⟨e, h1, _⟩ <;> simp [h1, viewBase]

@[simp] theorem viewTop_nil (m : Int) : viewTop [] m = m := rfl
@[simp] theorem viewBase_nil (m : Int) : viewBase [] m = m := rfl
@[simp] theorem viewPtr_nil (m : Int → Option Elem) (i : Int) : viewPtr [] m i = m i := rfl

theorem carry_tail (bufO : List Sto) (top lt lb : Int) (ptr : Int → Option Elem) (x : Elem) (A' : List Elem)
    (h : CarryShape bufO top lt ptr (x :: A')) (hlen : (((x :: A').length : Nat) : Int) = lt - lb) (hb : lb < top) :
    CarryShape bufO top lt ptr A' := by
  have hne : top = lt - 1 → A' ≠ [] := by
    intro ht hA; subst hA; simp at hlen; omega
  rcases h with ⟨h1, h2⟩ | ⟨h1, h2, _, h4⟩ | ⟨e, h1, h2, h4⟩
  · exact Or.inl ⟨h1, h2⟩
  · refine Or.inr (Or.inl ⟨h1, h2, hne h2, ?_⟩)
    rw [h4, getLast?_tail_of_length x A' (hne h2)]
  · refine Or.inr (Or.inr ⟨e, h1, h2, ?_⟩)
    rw [← h4, getLast?_tail_of_length x A' (hne h2)]

theorem pof_tail (bufO : List Sto) (top lt lb t : Int) (ptr : Int → Option Elem) (x : Elem) (A' : List Elem)
    (h : PofShape bufO top ptr (x :: A') t) (hlt : lt = t + 1)
    (hlen : (((x :: A').length : Nat) : Int) = lt - lb) (hb : lb < top ∨ bufO = []) :
    PofShape bufO top ptr A' t := by
  have hne : top = t → bufO ≠ [] → A' ≠ [] := by
    intro ht hbn hA
    rcases hb with hb | hb
    · subst hA; simp at hlen; omega
    · exact hbn hb
  rcases h with ⟨h1, h2⟩ | ⟨h1, h2, h3⟩ | ⟨h1, h2, _, h4⟩ | ⟨e, h1, h2, h4⟩
  · exact Or.inl ⟨h1, h2⟩
  · refine Or.inr (Or.inl ⟨h1, h2, ?_⟩)
    intro hA'
    rw [h3 (by simp), getLast?_tail_of_length x A' hA']
  · have hA' := hne h2 (by simp [h1])
    refine Or.inr (Or.inr (Or.inl ⟨h1, h2, hA', ?_⟩))
    rw [h4, getLast?_tail_of_length x A' hA']
  · have hA' := hne h2 (by simp [h1])
    refine Or.inr (Or.inr (Or.inr ⟨e, h1, h2, ?_⟩))
    rw [← h4, getLast?_tail_of_length x A' hA']

theorem cl2_viewBase (buf : List Sto) (base h : Int) (hs : Cl2Shape buf base h) : viewBase buf base = h := by
  rcases hs with rfl | ⟨rfl, rfl⟩ <;> simp [viewBase]

theorem rc1_viewTop (buf : List Sto) (top base lb lt sh off : Int) (h : Rc1Shape buf top base lb lt sh off) :
    viewTop buf top = top := by
  rcases h with ⟨h1, _⟩ | ⟨h1, _⟩ <;> simp [h1, viewTop]

theorem rc1_viewBase (buf : List Sto) (top base lb lt sh off : Int) (h : Rc1Shape buf top base lb lt sh off) :
    viewBase buf base = base := by
  rcases h with ⟨h1, _⟩ | ⟨h1, _⟩ <;> simp [h1, viewBase]

theorem rc2_viewTop (buf : List Sto) (top base lb lt sh off : Int) (h : Rc2Shape buf top base lb lt sh off) :
    viewTop buf top = lt + sh := by
  rcases h with ⟨rfl, rfl, _⟩ | ⟨rfl, rfl, _⟩ | ⟨rfl, rfl, rfl, _⟩ <;> simp [viewTop]

theorem rc2_viewBase (buf : List Sto) (top base lb lt sh off : Int) (h : Rc2Shape buf top base lb lt sh off) :
    viewBase buf base = base := by
  rcases h with ⟨h1, _⟩ | ⟨h1, _⟩ | ⟨h1, _⟩ <;> simp [h1, viewBase]

theorem rcshape_viewBase (buf : List Sto) (top base lb lt sh : Int) (h : RcShape buf top base lb lt sh) :
    viewBase buf base = lb + sh := by
  rcases h with (rfl | ⟨rfl, rfl⟩ | ⟨rfl, rfl, _⟩) | ⟨rfl, rfl, _, rfl⟩ <;> simp [viewBase]

theorem rcpre_append (buf suf : List Sto) (top lb lt sh : Int) (x : Sto) (h : RcPre buf suf top lb lt sh) :
    RcPre (buf ++ [x]) (suf ++ [x]) top lb lt sh := by
  rcases h with h1 | ⟨h1, h2⟩ | ⟨h1, h2, h3⟩
  · exact Or.inl (by simp [h1])
  · exact Or.inr (Or.inl ⟨by simp [h1], h2⟩)
  · exact Or.inr (Or.inr ⟨by simp [h1], h2, h3⟩)

/-- the memory-side window after a base-side insertion (drain of an inserting `base` store) -/
theorem mwin_cons (A : List Elem) (ptr : Int → Option Elem) (lb top : Int) (g : Prop) (e : Elem)
    (hmwin : ∀ k : Nat, k < A.length → (lb + k < top ∨ g) → ptr (lb + k) = A[k]?)
    (hp : ptr (lb - 1) = some e) :
    ∀ k : Nat, k < (e :: A).length → (lb - 1 + k < top ∨ g) → ptr (lb - 1 + k) = (e :: A)[k]? := by
  intro k hk hk2
  cases k with
  | zero => simp [hp]
  | succ j =>
    have h1 := hmwin j (by simp at hk; omega) (hk2.elim (fun h => Or.inl (by omega)) Or.inr)
    simp only [List.getElem?_cons_succ]
    rw [← h1]; congr 1; omega

/-- the complete window after the drain of a shift entry -/
theorem mwin_shift (A : List Elem) (ptr : Int → Option Elem) (lb lt off : Int)
    (hlen : (A.length : Int) = lt - lb)
    (hfull : ∀ k : Nat, k < A.length → ptr (lb + k) = A[k]?) :
    ∀ k : Nat, k < A.length → shiftPtr ptr lb lt off (lb + off + k) = A[k]? := by
  intro k hk
  rw [shiftPtr_apply, if_pos (by omega), ← hfull k hk]
  congr 1; omega

/-- what the invariant says about the owner's buffer and the words it guards when the owner is at `pc`
    (the clauses `carryC` … `cl3` of `Inv`, read as a function of the program counter) -/
def OwnerAt (s : St) : OPc → Prop
  | .idle | .pu0 _ | .pq | .po1 | .ptl _ | .cll => CarryShape s.bufO s.top s.lt s.ptr s.A
  | .pu0f _ t => CarryShape s.bufO s.top s.lt s.ptr s.A ∧ t = s.lt
  | .stuck => s.bufO = [] ∧ s.top = s.lt ∧ s.lt = s.size ∧ s.lb = 0
  | .pul _ | .pub _ => s.bufO = [] ∧ s.top = s.lt ∧ s.lt = s.size
  | .pum _ _ | .pt1 _ | .pt3 _ _ | .assertFail | .cl1 => s.bufO = [] ∧ s.top = s.lt
  | .pus _ off | .pt4 _ off => Rc1Shape s.bufO s.top s.base s.lb s.lt s.sh off
  | .puv _ off | .pt5 _ off => Rc2Shape s.bufO s.top s.base s.lb s.lt s.sh off
  | .pux _ t => t = s.lt + s.sh ∧ RcShape s.bufO s.top s.base s.lb s.lt s.sh
  | .pu1 _ t => s.bufO = [] ∧ s.top = s.lt ∧ t = s.lt
  | .pu2 e t => t = s.lt ∧ s.top = s.lt ∧ Pu2Shape s.bufO s.ptr e t
  | .pof t => s.lt = t + 1 ∧ PofShape s.bufO s.top s.ptr s.A t
  | .po2 t | .pol t | .po4 t => s.bufO = [] ∧ s.top = t ∧ s.lt = t + 1 ∧ (s.A ≠ [] → s.ptr t = s.A.getLast?)
  | .po3 t x => s.bufO = [] ∧ s.top = t ∧ s.lt = t ∧ s.ptr t = some x ∧ s.lb ≤ t ∧ s.flO = some x
  | .po5 t x => s.bufO = [] ∧ s.top = t ∧ s.lt = t ∧ s.ptr t = some x ∧ s.flO = some x
  | .po5b t r => s.bufO = [] ∧ s.top = t ∧ s.lt = t ∧ r = s.flO
  | .po5c _ r | .po5d r => r = s.flO ∧ s.top = s.lt ∧ Po5cShape s.bufO s.lt
  | .po6 r => r = s.flO ∧ s.top = s.lt ∧ Po6Shape s.bufO s.lt
  | .po7 => s.bufO = [] ∧ s.lt = s.lb ∧ s.top = s.lt - 1
  | .po8 => s.lt = s.lb ∧ s.lb = s.size / 2 ∧ s.sh = 0 ∧ Po8Shape s.bufO s.top (s.size / 2)
  | .po9 => s.lt = s.lb ∧ s.lb = s.size / 2 ∧ s.sh = 0 ∧ Po9Shape s.bufO s.top s.base (s.size / 2)
  | .stuckL => s.bufO = [] ∧ s.top = s.lt ∧ s.lb = 0 ∧ s.lt = s.size
  | .pt2 _ => s.bufO = [] ∧ s.top = s.lt ∧ s.lb = 0
  | .pt6 _ => RcShape s.bufO s.top s.base s.lb s.lt s.sh
  | .pt7 _ b => b = s.lb + s.sh ∧ RcShape s.bufO s.top s.base s.lb s.lt s.sh
  | .pt8 e b => b = s.lb + s.sh ∧
      (RcPre s.bufO [.ptr (b - 1) (some e)] s.top s.lb s.lt s.sh ∨
       (s.sh = 0 ∧ s.top = s.lt ∧ s.base = s.lb ∧ Pu2Shape s.bufO s.ptr e (b - 1)))
  | .pt9 =>
      (∃ e, RcPre s.bufO [.ptr (s.lb + s.sh - 1) (some e), .baseI (s.lb + s.sh - 1) e] s.top s.lb s.lt s.sh) ∨
      (s.sh = 0 ∧ s.top = s.lt ∧ s.base = s.lb ∧ InsShape s.bufO s.ptr s.lb)
  | .cl2 => s.lt = s.lb ∧ s.lb = s.size / 2 ∧ s.sh = 0 ∧ Cl2Shape s.bufO s.base (s.size / 2)
  | .cl3 => s.lt = s.lb ∧ s.lb = s.size / 2 ∧ s.sh = 0 ∧ Cl3Shape s.bufO s.top s.base (s.size / 2)

theorem Inv.ownerAt {s : St} (h : Inv s) : OwnerAt s s.opc := by
  cases hpc : s.opc with
  | idle | pu0 | pq | po1 | ptl | cll => exact h.carryC (by rw [hpc]; rfl)
  | pu0f e t => exact ⟨h.carryC (by rw [hpc]; rfl), h.pu0f e t hpc⟩
  | stuck => exact h.stuck hpc
  | pul e => exact h.pul e hpc
  | pub e => exact h.pub e hpc
  | pum e off => exact h.pum e off hpc
  | pus e off => exact h.pus e off hpc
  | puv e off => exact h.puv e off hpc
  | pux e t => exact h.pux e t hpc
  | pu1 e t => exact h.pu1 e t hpc
  | pu2 e t => exact h.pu2 e t hpc
  | pof t => exact h.pof t hpc
  | po2 t => exact h.po2 t hpc
  | po3 t x => exact h.po3 t x hpc
  | pol t => exact h.pol t hpc
  | po4 t => exact h.po4 t hpc
  | po5 t x => exact h.po5 t x hpc
  | po5b t r => exact h.po5b t r hpc
  | po5c t r => exact h.po5c t r hpc
  | po5d r => exact h.po5d r hpc
  | po6 r => exact h.po6 r hpc
  | po7 => exact h.po7 hpc
  | po8 => exact h.po8 hpc
  | po9 => exact h.po9 hpc
  | stuckL => exact h.stuckL hpc
  | pt1 e => exact h.pt1 e hpc
  | pt2 e => exact h.pt2 e hpc
  | pt3 e off => exact h.pt3 e off hpc
  | pt4 e off => exact h.pt4 e off hpc
  | pt5 e off => exact h.pt5 e off hpc
  | pt6 e => exact h.pt6 e hpc
  | pt7 e b => exact h.pt7 e b hpc
  | pt8 e b => exact h.pt8 e b hpc
  | pt9 => exact h.pt9 hpc
  | assertFail => exact h.asF hpc
  | cl1 => exact h.cl1 hpc
  | cl2 => exact h.cl2 hpc
  | cl3 => exact h.cl3 hpc

/-! ### Small-context automation
    Destructing the whole invariant (`cases h`) puts ≈130 hypotheses in front of every `grind` call
    and makes every clause of the new state a separate `grind` problem over all of them.  The
    tactics below keep `h : Inv s` folded: `inv_core` adds the handful of global clauses (lock
    discipline, `len`, `lbase`, `mtop`, `shz`, `trn`, `trF`) plus the clauses named by the caller
    (normally the clause of the current program counter); after `constructor`, `inv_pick` adds to
    each goal only the OLD version of the clause being proved.  Unchanged clauses then close by
    `exact`, clauses of other program counters by constructor mismatch, clauses quantified over
    the participants by a case split on the stepping participant, and only the few clauses the step
    really touches go to `grind` – with a context of a dozen hypotheses.
    They are for proofs against the flat invariant; the step and drain theorems of the library go
    through the cut of `WsQueueTsoParts.lean` instead and need none of them. -/
section FastTactics
open Lean Elab Tactic Meta

/-- `inv_core h [f1, f2, …]`: add the global clauses of `h : Inv s` and the listed clauses to the context -/
elab "inv_core " h:ident " [" fs:ident,* "]" : tactic => withMainContext do
  let g ← getMainGoal
  let hExpr ← elabTerm h none
  let mut names : Array Name := #[`cfg, `lockO, `lockT, `len, `lbase, `mtop, `shz, `trn, `trF]
  for f in fs.getElems do
    let n := f.getId.eraseMacroScopes
    unless names.contains n do names := names.push n
  let mut g := g
  for f in names do
    let projName := ``Inv ++ f
    if (← getEnv).contains projName then
      let pf ← mkAppM projName #[hExpr]
      let ty ← inferType pf
      let g' ← g.assert (Name.mkSimple ("hc_" ++ f.toString)) ty pf
      let (_, g'') ← g'.intro1P
      g := g''
  replaceMainGoal [g]

/-- on a goal produced by `constructor` on `Inv s'` (its tag ends in the field name `F`): add the old
    clause `h.F` as the newest hypothesis -/
elab "inv_pick " h:ident : tactic => withMainContext do
  let g ← getMainGoal
  let tag ← g.getTag
  let fld := match tag with
    | .str _ s => Name.mkSimple s
    | _ => Name.anonymous
  let hExpr ← elabTerm h none
  let pf ← mkAppM (``Inv ++ fld) #[hExpr]
  let ty ← inferType pf
  let g' ← g.assert `hold ty pf
  let (_, g'') ← g'.intro1
  replaceMainGoal [g'']

end FastTactics

/-- the goals left after `constructor` (owner-side step or drain; `hpc : s.opc = …`) -/
macro "tso_goalsO " h:ident hpc:ident : tactic => `(tactic| (
    all_goals (inv_pick $h; rename_i hold)
    all_goals (first | exact hold | (
      (try simp only [$hpc:ident, ownerLocked, carry, resetting, ownerFlight, upd_apply, applySto] at hold ⊢)
      first | assumption | (intros; contradiction) | grind [thiefLocked, mayBuf, notTrans, thiefFlight, popWin, List.length_dropLast] | grind [thiefLocked, mayBuf, notTrans, thiefFlight, popWin, List.length_dropLast, getLast?_tail_of_length, head?_append_of_ne, upd_apply, CarryShape, Pu2Shape, PofShape, Po6Shape, Po8Shape, Po9Shape, InsShape, Rc1Shape, Rc2Shape, RcPre, RcShape, Po5cShape, Cl2Shape, Cl3Shape, Wk4uShape, Vk5Shape, VuShape, TkfShape, Tk6Shape] | (cases $h:ident; (try simp only [$hpc:ident, ownerLocked, carry, resetting, ownerFlight, upd_apply, applySto] at *); grind [thiefLocked, mayBuf, notTrans, thiefFlight, popWin, List.length_dropLast, getLast?_tail_of_length, head?_append_of_ne, upd_apply, CarryShape, Pu2Shape, PofShape, Po6Shape, Po8Shape, Po9Shape, InsShape, Rc1Shape, Rc2Shape, RcPre, RcShape, Po5cShape, Cl2Shape, Cl3Shape, Wk4uShape, Vk5Shape, VuShape, TkfShape, Tk6Shape]) | skip))))

/-- the goals left after `constructor` (step or drain of participant `p`) -/
macro "tso_goalsT " h:ident p:ident : tactic => `(tactic| (
    all_goals (inv_pick $h; rename_i hold)
    all_goals (first | exact hold | (
      (try simp only [ownerLocked, carry, resetting, ownerFlight, upd_apply, applySto] at hold ⊢)
      first | assumption | (intros; contradiction) | (intro q; if hq : q = $p then (subst hq; simp only [if_true]; intros; contradiction) else (simp only [if_neg hq]; exact hold q)) | grind [thiefLocked, mayBuf, notTrans, thiefFlight, popWin, List.length_dropLast] | grind [thiefLocked, mayBuf, notTrans, thiefFlight, popWin, List.length_dropLast, getLast?_tail_of_length, head?_append_of_ne, upd_apply, CarryShape, Pu2Shape, PofShape, Po6Shape, Po8Shape, Po9Shape, InsShape, Rc1Shape, Rc2Shape, RcPre, RcShape, Po5cShape, Cl2Shape, Cl3Shape, Wk4uShape, Vk5Shape, VuShape, TkfShape, Tk6Shape] | (cases $h:ident; (try simp only [ownerLocked, carry, resetting, ownerFlight, upd_apply, applySto] at *); grind [thiefLocked, mayBuf, notTrans, thiefFlight, popWin, List.length_dropLast, getLast?_tail_of_length, head?_append_of_ne, upd_apply, CarryShape, Pu2Shape, PofShape, Po6Shape, Po8Shape, Po9Shape, InsShape, Rc1Shape, Rc2Shape, RcPre, RcShape, Po5cShape, Cl2Shape, Cl3Shape, Wk4uShape, Vk5Shape, VuShape, TkfShape, Tk6Shape]) | skip))))

/-- the names `inv_core` gives to the clauses it adds -/
def coreIdents (fs : Array Lean.Syntax) : Array Lean.Ident :=
  let base : Array Lean.Name := #[`lockO, `lbase, `mtop, `shz]
  let extra := (fs.map (·.getId)).filter (fun n => !base.contains n && !#[`cfg, `lockT, `len, `trn, `trF].contains n)
  (base ++ extra).map fun n => Lean.mkIdent (Lean.Name.mkSimple ("hc_" ++ n.toString))

/-- complete preservation proof of an owner-side step: `h : Inv s` folded, `hpc : s.opc = …`;
    the listed clauses must be fields of `Inv` -/
macro "tso_fastO " h:ident hpc:ident " [" fs:ident,* "]" : tactic => do
  let ids := coreIdents fs.getElems
  `(tactic| (
    inv_core $h [$fs,*]
    (try simp only [$hpc:ident, ownerLocked, carry, resetting, ownerFlight] at $ids:ident*)
    constructor
    tso_goalsO $h $hpc))

/-- complete preservation proof of a step of participant `p` -/
macro "tso_fastT " h:ident p:ident " [" fs:ident,* "]" : tactic => do
  let ids := coreIdents fs.getElems
  `(tactic| (
    inv_core $h [$fs,*]
    (try simp only [ownerLocked, carry, resetting, ownerFlight] at $ids:ident*)
    constructor
    tso_goalsT $h $p))

/-- `inv_core` followed by the normalisation of the clauses it added (for proofs that treat some clauses by hand) -/
macro "tso_coreO " h:ident hpc:ident " [" fs:ident,* "]" : tactic => do
  let ids := coreIdents fs.getElems
  `(tactic| (
    inv_core $h [$fs,*]
    (try simp only [$hpc:ident, ownerLocked, carry, resetting, ownerFlight] at $ids:ident*)))

macro "tso_coreT " h:ident " [" fs:ident,* "]" : tactic => do
  let ids := coreIdents fs.getElems
  `(tactic| (
    inv_core $h [$fs,*]
    (try simp only [ownerLocked, carry, resetting, ownerFlight] at $ids:ident*)))




/-- a store at the head of the owner's buffer that no buffer-shape clause of this program counter allows -/
macro "tso_absurd" : tactic => `(tactic|
  grind [CarryShape, Pu2Shape, PofShape, Po5cShape, Po6Shape, Po8Shape, Po9Shape, InsShape, Rc1Shape, Rc2Shape, RcPre, RcShape, Cl2Shape, Cl3Shape])

/-- `tso_absurd` with only the owner's buffer-shape clauses in the context (`h : Inv s` folded, `hpc : s.opc = …`) -/
macro "tso_shapes_core " h:ident hpc:ident : tactic => `(tactic| (
  inv_core $h [carryC, stuck, pul, pub, pum, pus, puv, pux, pu1, pu2, pof, po2, pol, po4, po3, po5, po5b, po5c, po5d, po6,
    po7, po8, po9, stuckL, pt1, pt2, pt3, pt4, pt5, pt6, pt7, pt8, pt9, asF, cl1, cl2, cl3]
  simp only [$hpc:ident, ownerLocked, carry, resetting, ownerFlight] at *
  tso_absurd))


end MythVerif.WsqTso
