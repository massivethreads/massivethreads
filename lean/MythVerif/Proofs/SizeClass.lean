import MythVerif.Model.SizeClass
/-! Size classes: the characterisation of `sizeToIndex` behind `C12_size_class`. -/
namespace MythVerif.SizeClass

/-- the class of a request is the least `m` whose block `2 ^ m` holds it -/
theorem sizeToIndex_le_iff (s m : Nat) (h : 2 ≤ s) : sizeToIndex s ≤ m ↔ s ≤ 2 ^ m := by
  unfold sizeToIndex
  rw [Nat.succ_le_iff, Nat.log2_lt (by omega)]
  omega

end MythVerif.SizeClass
