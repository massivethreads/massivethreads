import MythVerif.Model.DagRec
/-! The contraction-independent part (`Core`) of what `dr_accumulate_stats` and
`dr_return_from_wait_tasks__` compute depends only on the `Core`s of what they read of the children,
so the `Core` of every recorded `info` is that of the pure bottom-up evaluation `viewTree` under any
admissible policy; the recorder's own policies are admissible. -/
namespace MythVerif.DagRec

/-- two views agree on everything a parent reads except the node counts -/
def CoreEq (x y : View) : Prop := x.i.c = y.i.c ∧ x.child.map (·.c) = y.child.map (·.c)

theorem CoreEq.rfl' (x : View) : CoreEq x x := ⟨rfl, rfl⟩

inductive VEq : List View → List View → Prop where
  | nil : VEq [] []
  | cons {x y : View} {xs ys : List View} : CoreEq x y → VEq xs ys → VEq (x :: xs) (y :: ys)

theorem VEq.refl' : ∀ xs : List View, VEq xs xs
  | [] => .nil
  | x :: xs => .cons (CoreEq.rfl' x) (VEq.refl' xs)

theorem accStep_core (v : Variant) (a b : Acc) (x y : View) (h : Bool)
    (hs : a.s.c = b.s.c) (ht : a.tinfMax = b.tinfMax) (hxy : CoreEq x y) :
    (accStep v a x h).s.c = (accStep v b y h).s.c ∧ (accStep v a x h).tinfMax = (accStep v b y h).tinfMax := by
  obtain ⟨h1, h2⟩ := hxy
  cases hx : x.child <;> cases hy : y.child <;> simp [hx, hy] at h2
  · unfold accStep
    simp only [hx, hy, h1, hs, ht]
    split <;> (try split) <;> simp
  · unfold accStep
    simp only [hx, hy, h1, hs, ht, h2]
    split <;> (try split) <;> simp

theorem accLoop_core (v : Variant) (xs ys : List View) (hxy : VEq xs ys) :
    ∀ (a b : Acc), a.s.c = b.s.c → a.tinfMax = b.tinfMax →
      (accLoop v a xs).s.c = (accLoop v b ys).s.c ∧ (accLoop v a xs).tinfMax = (accLoop v b ys).tinfMax := by
  induction hxy with
  | nil => intro a b hs ht; exact ⟨hs, ht⟩
  | @cons x y xs ys hh ht' ih =>
    intro a b hs ht
    simp only [accLoop]
    have hl : xs.isEmpty = ys.isEmpty := by
      cases ht' <;> rfl
    rw [hl]
    obtain ⟨h1, h2⟩ := accStep_core v a b x y (!ys.isEmpty) hs ht hh
    exact ih _ _ h1 h2

theorem veq_getLast (xs ys : List View) (hxy : VEq xs ys) (x y : View) (h : CoreEq x y) :
    CoreEq (xs.getLast?.getD x) (ys.getLast?.getD y) := by
  induction hxy generalizing x y with
  | nil => simpa using h
  | @cons a b as bs hab hrest ih =>
    have := ih a b hab
    cases hrest with
    | nil => simpa using hab
    | cons h1 h2 => simp_all [List.getLast?_cons_cons]

theorem accumulate_core (v : Variant) (k : NKind) (xs ys : List View) (hxy : VEq xs ys) :
    (accumulate v k xs).c = (accumulate v k ys).c := by
  cases hxy with
  | nil => rfl
  | @cons x y xs' ys' hh ht =>
    have hl := veq_getLast xs' ys' ht x y hh
    obtain ⟨h1, h2⟩ := accLoop_core v (x :: xs') (y :: ys') (.cons hh ht)
      { s := accInit k x ((x :: xs').getLast?.getD x), tinfMax := 0 }
      { s := accInit k y ((y :: ys').getLast?.getD y), tinfMax := 0 }
      (by simp [accInit, List.getLast?_cons, hh.1, hl.1]) rfl
    simp [accumulate, accFinish, h1, h2]

theorem rfwStep_core (c : Cursor) (x y : View) (h : CoreEq x y) : rfwStep c x = rfwStep c y := by
  obtain ⟨h1, h2⟩ := h
  cases hx : x.child <;> cases hy : y.child <;> simp [hx, hy] at h2
  · simp [rfwStep, hx, hy]
  · simp only [rfwStep, hx, hy, h1]
    split <;> simp_all

theorem returnFromWait_fold_core (xs ys : List View) (hxy : VEq xs ys) (c : Cursor) :
    xs.foldl rfwStep c = ys.foldl rfwStep c := by
  induction hxy generalizing c with
  | nil => rfl
  | @cons x y xs ys hh _ ih =>
    simp only [List.foldl_cons]
    rw [rfwStep_core c x y hh]
    exact ih _

theorem returnFromWait_core (xs ys : List View) (hxy : VEq xs ys) :
    returnFromWait xs = returnFromWait ys := by
  cases hxy with
  | nil => rfl
  | @cons x y xs' ys' hh ht =>
    have hl := veq_getLast xs' ys' ht x y hh
    simp only [returnFromWait, List.getLast?_cons, hl.1]
    exact returnFromWait_fold_core _ _ (.cons hh ht) _

/-- a policy is admissible when it keeps the node a section / task and leaves the
    contraction-independent part of the accumulated `info` alone (it may change `cur_node_count` /
    `min_node_count` and drop or prune children in any way) -/
def Admissible (pol : Policy) : Prop := ∀ i ds, ∃ j ds', pol i ds = .group j ds' ∧ j.c = i.c

theorem admissible_view (pol : Policy) (h : Admissible pol) (i : Info) (ds : DList) :
    CoreEq (pol i ds).view { i := i } := by
  obtain ⟨j, ds', hp, hj⟩ := h i ds
  rw [hp]
  exact ⟨hj, rfl⟩

mutual
theorem recTree_view (v : Variant) (pol : Policy) (h : Admissible pol) :
    ∀ (t : Tree) (c : Cursor), CoreEq (recTree v pol t c).1.view (viewTree v t c).1
      ∧ (recTree v pol t c).2 = (viewTree v t c).2
  | .ival k r, c => by simp [recTree, viewTree, DNode.view, CoreEq]
  | .create r child, c => by
    have ih := recTree_view v pol h child (cursorAfter (endInterval .createTask r c) .create)
    simp only [recTree, viewTree, DNode.view, CoreEq, and_true, true_and, Option.map_some, Option.some.injEq]
    have := ih.1.1
    cases hd : (recTree v pol child (cursorAfter (endInterval .createTask r c) .create)).1 <;>
      simp_all [DNode.view, DNode.info]
  | .group k f, c => by
    have ih := recForest_view v pol h f c
    simp only [recTree, viewTree]
    have hacc := accumulate_core v k _ _ ih.1
    have hrw := returnFromWait_core _ _ ih.1
    refine ⟨?_, by rw [hrw]⟩
    obtain ⟨j, ds', hp, hj⟩ := h (accumulate v k (recForest v pol f c).1.views) (recForest v pol f c).1
    rw [hp]
    exact ⟨hj.trans hacc, rfl⟩
theorem recForest_view (v : Variant) (pol : Policy) (h : Admissible pol) :
    ∀ (f : Forest) (c : Cursor), VEq (recForest v pol f c).1.views (viewForest v f c).1
      ∧ (recForest v pol f c).2 = (viewForest v f c).2
  | .nil, c => by simp [recForest, viewForest, DList.views]; exact .nil
  | .cons t rest, c => by
    have h1 := recTree_view v pol h t c
    have h2 := recForest_view v pol h rest (viewTree v t c).2
    simp only [recForest, viewForest, DList.views]
    rw [h1.2]
    exact ⟨.cons h1.1 h2.1, h2.2⟩
end

/-! ### what the recorder's own policies can do to a section / task -/

theorem pruneNode_group_cases (v : Variant) (i : Info) (ds : DList) (b : Int) :
    pruneNode v (.group i ds) b = .group i ds ∨ pruneNode v (.group i ds) b = collapse v i ∨
    pruneNode v (.group i ds) b =
      .group { i with cur := (b - (pruneList v ds (b - 1) ((i.cur : Int) - 1)).2).toNat }
        (pruneList v ds (b - 1) ((i.cur : Int) - 1)).1 := by
  unfold pruneNode
  split
  · exact .inl rfl
  · split
    · exact .inl rfl
    · split
      · exact .inr (.inl rfl)
      · exact .inr (.inr rfl)

theorem summarize_cases (v : Variant) (o : Opts) (i : Info) (ds : DList) :
    summarize v o i ds = .group i ds ∨ summarize v o i ds = collapse v i ∨
    summarize v o i ds = pruneNode v (.group i ds) o.nodeCountTarget := by
  unfold summarize
  repeat' split
  all_goals simp

theorem pruneNode_group (v : Variant) (i : Info) (ds : DList) (b : Int) :
    ∃ j ds', pruneNode v (.group i ds) b = .group j ds' ∧ j.c = i.c := by
  rcases pruneNode_group_cases v i ds b with h | h | h
  all_goals exact ⟨_, _, h, rfl⟩

/-- the recorder's own three contraction policies are admissible -/
theorem admissible_summarize (v : Variant) (o : Opts) : Admissible (summarize v o) := by
  intro i ds
  rcases summarize_cases v o i ds with h | h | h
  · exact ⟨_, _, h, rfl⟩
  · exact ⟨_, _, h, rfl⟩
  · rw [h]; exact pruneNode_group v i ds _

theorem admissible_keepAll : Admissible keepAll := fun i ds => ⟨i, ds, rfl, rfl⟩

theorem rec_ival (v : Variant) (pol : Policy) (k : NKind) (r : Raw) (c : Cursor) :
    (recTree v pol (.ival k r) c).1 = .ival (endInterval k r c) := by
  simp [recTree]

theorem rec_create (v : Variant) (pol : Policy) (r : Raw) (ch : Tree) (c : Cursor) :
    (recTree v pol (.create r ch) c).1 =
      .create (endInterval .createTask r c) (recTree v pol ch (cursorAfter (endInterval .createTask r c) .create)).1 := by
  simp [recTree]

theorem rec_group (v : Variant) (pol : Policy) (k : NKind) (f : Forest) (c : Cursor) :
    (recTree v pol (.group k f) c).1 =
      pol (accumulate v k (recForest v pol f c).1.views) (recForest v pol f c).1 := by
  simp [recTree]

theorem rec_cons (v : Variant) (pol : Policy) (x : Tree) (rest : Forest) (c : Cursor) :
    (recForest v pol (.cons x rest) c).1 =
      .cons (recTree v pol x c).1 (recForest v pol rest (recTree v pol x c).2).1 := by
  simp [recForest]

theorem rec_nil (v : Variant) (pol : Policy) (c : Cursor) : (recForest v pol .nil c).1 = .nil := by
  simp [recForest]

theorem DNode.view_i (d : DNode) : d.view.i = d.info := by cases d <;> rfl

/-- the contraction-independent part of the root `info` is the pure bottom-up evaluation -/
theorem record_core (v : Variant) (o : Opts) (sc : Nat) (t : Tree) :
    (record v o sc t).info.c = (viewTree v t (rootCursor sc)).1.i.c := by
  have h1 := (recTree_view v _ (admissible_summarize v o) t (rootCursor sc)).1.1
  rw [DNode.view_i] at h1
  exact h1

end MythVerif.DagRec
