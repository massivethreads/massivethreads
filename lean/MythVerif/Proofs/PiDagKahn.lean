import MythVerif.Proofs.PiDagCert
/-! The in-degree driven elimination of the checker (`eliminate`) produces a valid certificate for
every DAG whose edges respect some rank function, whose edge ends are leaves and in which every
leaf but the first has a predecessor: soundness of Kahn's algorithm with an arbitrary work list. -/
namespace MythVerif.PiDag

/-! ### the loop over the out-edges of an eliminated node -/

def kstep (st : Array Nat × List Nat) (e : PEdge) : Array Nat × List Nat :=
  let rc := st.1.modify e.v (· - 1)
  if rc[e.v]! == 0 then (rc, e.v :: st.2) else (rc, st.2)

theorem go_succ (G : PiDag) (fuel : Nat) (rc : Array Nat) (u : Nat) (work acc : List Nat) :
    eliminate.go G (fuel + 1) rc (u :: work) acc =
      eliminate.go G fuel ((outEdges G u).foldl kstep (rc, work)).1 ((outEdges G u).foldl kstep (rc, work)).2 (u :: acc) := by
  rw [eliminate.go]
  rfl

theorem go_zero (G : PiDag) (rc : Array Nat) (work acc : List Nat) :
    eliminate.go G 0 rc work acc = acc.reverse := by
  rw [eliminate.go]

theorem go_nil (G : PiDag) (fuel : Nat) (rc : Array Nat) (acc : List Nat) :
    eliminate.go G fuel rc [] acc = acc.reverse := by
  cases fuel <;> simp [eliminate.go]

theorem kfold_spec : ∀ (L : List PEdge) (rc : Array Nat) (work : List Nat) (r : Nat → Nat),
    (∀ e ∈ L, e.v < rc.size) → (∀ v < rc.size, rc[v]! = r v) → (∀ v, cntV L v ≤ r v) →
    ∃ rc', L.foldl kstep (rc, work) = (rc', (zeros r L).reverse ++ work) ∧ rc'.size = rc.size ∧
      (∀ v < rc.size, rc'[v]! = r v - cntV L v)
  | [], rc, work, r, _, hr, _ => ⟨rc, rfl, rfl, fun v hv => by simp [cntV, hr v hv]⟩
  | e :: es, rc, work, r, hlt, hr, hle => by
    have hev : e.v < rc.size := hlt e (by simp)
    have hrc1 : ∀ v < rc.size, (rc.modify e.v (· - 1))[v]! = dec r e.v v := by
      intro v hv
      rw [modify_get!, hr v hv]
      unfold dec
      by_cases h : e.v = v
      · subst h; rw [if_pos ⟨rfl, hev⟩, if_pos rfl]
      · rw [if_neg (fun hh => h hh.1), if_neg (fun x => h x.symm)]
    have hzero : ((rc.modify e.v (· - 1))[e.v]! == 0) = decide (r e.v = 1) := by
      have := hle e.v; rw [cntV_cons, if_pos rfl] at this
      rw [hrc1 e.v hev]; simp only [dec, if_true]
      by_cases h : r e.v = 1 <;> simp [h]; omega
    simp only [List.foldl_cons, kstep, hzero, decide_eq_true_eq, zeros]
    split
    · obtain ⟨rc', heq, hsz, hrc⟩ := kfold_spec es (rc.modify e.v (· - 1)) (e.v :: work) (dec r e.v)
        (by simpa using fun e' he' => hlt e' (by simp [he'])) (by simpa using hrc1) (dec_le hle)
      refine ⟨rc', by rw [heq]; simp, by simpa using hsz, fun v hv => ?_⟩
      rw [hrc v (by simpa using hv), dec_sub]
    · obtain ⟨rc', heq, hsz, hrc⟩ := kfold_spec es (rc.modify e.v (· - 1)) work (dec r e.v)
        (by simpa using fun e' he' => hlt e' (by simp [he'])) (by simpa using hrc1) (dec_le hle)
      refine ⟨rc', heq, by simpa using hsz, fun v hv => ?_⟩
      rw [hrc v (by simpa using hv), dec_sub]

/-! ### hypotheses and invariant -/

/-- what the elimination needs of `G`: some `ρ` increases along every edge (no cycle), edges join leaves, the
    in-degree table is the true one and only the first leaf has in-degree 0 -/
structure KHyp (G : PiDag) (ρ : Nat → Nat) : Prop where
  fl_lt : firstLeaf G < G.T.size
  fl_leaf : isLeaf G.T[firstLeaf G]! = true
  ends : ∀ u, u < G.T.size → ∀ e ∈ outEdges G u, e.v < G.T.size ∧ isLeaf G.T[u]! = true ∧ isLeaf G.T[e.v]! = true
  rank : ∀ u, u < G.T.size → ∀ e ∈ outEdges G u, ρ u < ρ e.v
  indeg_fl : (indegrees G)[firstLeaf G]! = 0
  indeg_leaf : ∀ i, i < G.T.size → isLeaf G.T[i]! = true → i ≠ firstLeaf G → 0 < (indegrees G)[i]!
  degrees : ∀ v, v < G.T.size → (indegrees G)[v]! = rsum G.T.size (fun u => cntV (outEdges G u) v)

/-- edges into `v` from nodes not in `l` -/
def rem (G : PiDag) (l : List Nat) (v : Nat) : Nat :=
  rsum G.T.size fun u => if u ∈ l then 0 else cntV (outEdges G u) v

theorem rem_nil (G : PiDag) (v : Nat) : rem G [] v = rsum G.T.size (fun u => cntV (outEdges G u) v) := by
  simp [rem]

theorem rem_add (G : PiDag) (l l' : List Nat) (u v : Nat) (hu : u < G.T.size) (hul : u ∉ l)
    (hl' : ∀ x, x ∈ l' ↔ x = u ∨ x ∈ l) : rem G l' v + cntV (outEdges G u) v = rem G l v := by
  have := rsum_update G.T.size u hu
    (fun w => if w ∈ l then 0 else cntV (outEdges G w) v)
    (fun w => if w ∈ l' then 0 else cntV (outEdges G w) v)
    (by intro x _ hx
        have : x ∈ l' ↔ x ∈ l := by rw [hl']; simp [hx]
        simp only [this])
  have hu' : u ∈ l' := (hl' u).mpr (Or.inl rfl)
  simp only [hul, hu', if_true, if_false] at this
  simp only [rem]
  omega

theorem rem_term_le (G : PiDag) (l : List Nat) (u v : Nat) (hu : u < G.T.size) (hul : u ∉ l) :
    cntV (outEdges G u) v ≤ rem G l v := by
  have := rsum_term_le G.T.size u hu (fun w => if w ∈ l then 0 else cntV (outEdges G w) v)
  simpa [hul, rem] using this

theorem rem_pos (G : PiDag) (l : List Nat) (v : Nat) (h : rem G l v ≠ 0) :
    ∃ u, u < G.T.size ∧ u ∉ l ∧ 0 < cntV (outEdges G u) v := by
  obtain ⟨u, hu, hne⟩ := rsum_pos_ex _ _ h
  split at hne
  · exact absurd rfl hne
  · exact ⟨u, hu, ‹_›, by omega⟩

/-- `ord` = eliminated so far, in order.  The counter of `v` is the number of its in-edges from nodes not yet
    eliminated (`rcv`), the work list is exactly the leaves outside `ord` whose counter is 0 (`wk`), and every edge
    into a member of `ord` comes from an earlier member (`topo`) -/
structure KInv (G : PiDag) (ord work : List Nat) (rc : Array Nat) : Prop where
  sz : rc.size = G.T.size
  rcv : ∀ v, v < G.T.size → rc[v]! = rem G ord v
  nd_ord : ord.Nodup
  nd_work : work.Nodup
  wk : ∀ v, v ∈ work ↔ (v ∉ ord ∧ v < G.T.size ∧ isLeaf G.T[v]! = true ∧ rem G ord v = 0)
  leaf : ∀ v ∈ ord, v < G.T.size ∧ isLeaf G.T[v]! = true
  hd : (ord = [] ∧ work = [firstLeaf G]) ∨ ord.head? = some (firstLeaf G)
  topo : ∀ (b : Nat) (hb : b < ord.length) (u : Nat), u < G.T.size → ∀ e ∈ outEdges G u, e.v = ord[b] →
    ∃ a, a < b ∧ ord[a]? = some u

theorem kinv_init (G : PiDag) (ρ : Nat → Nat) (H : KHyp G ρ) : KInv G [] [firstLeaf G] (indegrees G) := by
  refine ⟨indegrees_size G, fun v hv => by rw [rem_nil, H.degrees v hv], List.nodup_nil, by simp, ?_, by simp,
    Or.inl ⟨rfl, rfl⟩, fun b hb => by simp at hb⟩
  intro v
  simp only [List.mem_singleton, List.not_mem_nil, not_false_eq_true, true_and]
  constructor
  · intro h; subst h
    exact ⟨H.fl_lt, H.fl_leaf, by rw [rem_nil, ← H.degrees _ H.fl_lt]; exact H.indeg_fl⟩
  · intro ⟨h1, h2, h3⟩
    apply Classical.byContradiction
    intro hne
    have := H.indeg_leaf v h1 h2 hne
    rw [H.degrees v h1, ← rem_nil] at this
    omega

theorem kinv_step (G : PiDag) (ρ : Nat → Nat) (H : KHyp G ρ) (ord work : List Nat) (rc : Array Nat) (u : Nat)
    (hi : KInv G ord (u :: work) rc) :
    KInv G (ord ++ [u]) ((outEdges G u).foldl kstep (rc, work)).2 ((outEdges G u).foldl kstep (rc, work)).1 := by
  have hu := (hi.wk u).mp (by simp)
  obtain ⟨hu1, hu2, hu3, hu4⟩ := hu
  have hnd := hi.nd_work
  rw [List.nodup_cons] at hnd
  have hle := fun v => rem_term_le G ord u v hu2 hu1
  obtain ⟨rc', heq, hsz, hrc⟩ := kfold_spec (outEdges G u) rc work (fun v => rem G ord v)
    (by intro e he; rw [hi.sz]; exact (H.ends u hu2 e he).1)
    (by intro v hv; exact hi.rcv v (by rw [← hi.sz]; exact hv)) hle
  have hnew : ∀ v, v ∈ (zeros (fun v => rem G ord v) (outEdges G u)).reverse ↔ _ :=
    fun v => List.mem_reverse.trans (mem_zeros hle v)
  have hndn := nodup_zeros hle
  rw [heq]
  simp only
  have hmem : ∀ x, x ∈ ord ++ [u] ↔ x = u ∨ x ∈ ord := by intro x; simp [or_comm]
  have hrem : ∀ v, rem G (ord ++ [u]) v + cntV (outEdges G u) v = rem G ord v :=
    fun v => rem_add G ord _ u v hu2 hu1 hmem
  -- closure of `ord` under predecessors
  have hclosed : ∀ x ∈ ord, ∀ u', u' < G.T.size → ∀ e ∈ outEdges G u', e.v = x → u' ∈ ord := by
    intro x hx u' hu' e he hev
    obtain ⟨b, hb, hxb⟩ := List.mem_iff_getElem.mp hx
    obtain ⟨a, _, ha⟩ := hi.topo b hb u' hu' e he (by rw [hev, hxb])
    exact List.mem_of_getElem? ha
  refine ⟨by rw [hsz, hi.sz], ?_, ?_, ?_, ?_, ?_, ?_, ?_⟩
  · intro v hv
    rw [hrc v (by rw [hi.sz]; exact hv)]
    have := hrem v
    omega
  · rw [List.nodup_append]
    refine ⟨hi.nd_ord, by simp, ?_⟩
    intro a ha b hb hab
    simp only [List.mem_singleton] at hb
    rw [hb] at hab; rw [hab] at ha; exact hu1 ha
  · rw [List.nodup_append]
    refine ⟨hndn, hnd.2, ?_⟩
    intro a ha b hb hab
    rw [← hab] at hb
    have h1 := (hnew a).mp ha
    have h2 := (hi.wk a).mp (by simp [hb])
    have := hrem a
    omega
  · intro v
    rw [List.mem_append, hnew v]
    constructor
    · rintro (⟨h1, h2⟩ | h)
      · obtain ⟨e, he, hev⟩ := cntV_pos h1
        have hends := H.ends u hu2 e he
        have hrk := H.rank u hu2 e he
        rw [hev] at hends hrk
        refine ⟨?_, hends.1, hends.2.2, by have := hrem v; omega⟩
        rw [hmem]
        rintro (h | h)
        · rw [h] at hrk; omega
        · exact hu1 (hclosed v h u hu2 e he hev)
      · have h2 := (hi.wk v).mp (by simp [h])
        refine ⟨?_, h2.2.1, h2.2.2.1, by have := hrem v; omega⟩
        rw [hmem]
        rintro (h' | h')
        · rw [h'] at h; exact hnd.1 h
        · exact h2.1 h'
    · intro ⟨h1, h2, h3, h4⟩
      rw [hmem] at h1
      by_cases h0 : rem G ord v = 0
      · right
        have := (hi.wk v).mpr ⟨fun h => h1 (Or.inr h), h2, h3, h0⟩
        simp only [List.mem_cons] at this
        rcases this with h | h
        · exact absurd h (fun h => h1 (Or.inl h))
        · exact h
      · left
        have := hrem v
        omega
  · intro v hv
    rw [hmem] at hv
    rcases hv with h | h
    · rw [h]; exact ⟨hu2, hu3⟩
    · exact hi.leaf v h
  · right
    rcases hi.hd with ⟨h1, h2⟩ | h
    · subst h1
      simp only [List.cons.injEq] at h2
      simp [h2.1]
    · rw [List.head?_append, h]; rfl
  · intro b hb u' hu' e he hev
    simp only [List.length_append, List.length_singleton] at hb
    by_cases hbl : b < ord.length
    · rw [List.getElem_append_left hbl] at hev
      obtain ⟨a, ha1, ha2⟩ := hi.topo b hbl u' hu' e he hev
      exact ⟨a, ha1, by rw [List.getElem?_append_left (by omega)]; exact ha2⟩
    · have hbe : b = ord.length := by omega
      subst hbe
      rw [List.getElem_append_right (Nat.le_refl _)] at hev
      simp only [Nat.sub_self, List.getElem_cons_zero] at hev
      have hmemu' : u' ∈ ord := by
        apply Classical.byContradiction
        intro hn
        have h1 := rem_term_le G ord u' u hu' hn
        have h2 := cntV_pos_of_mem he
        rw [hev] at h2
        omega
      obtain ⟨a, ha, hxa⟩ := List.mem_iff_getElem.mp hmemu'
      exact ⟨a, ha, by rw [List.getElem?_append_left ha, List.getElem?_eq_getElem ha, hxa]⟩

/-- `KInv` with the work list empty, plus `complete`: no leaf is left out, because a leaf left out with least `ρ`
    would have counter 0 and so be on the work list (`kinv_complete`) -/
structure KFinal (G : PiDag) (ord : List Nat) : Prop where
  nd : ord.Nodup
  leaf : ∀ v ∈ ord, v < G.T.size ∧ isLeaf G.T[v]! = true
  hd : ord.head? = some (firstLeaf G)
  topo : ∀ (b : Nat) (hb : b < ord.length) (u : Nat), u < G.T.size → ∀ e ∈ outEdges G u, e.v = ord[b] →
    ∃ a, a < b ∧ ord[a]? = some u
  complete : ∀ v, v < G.T.size → isLeaf G.T[v]! = true → v ∈ ord

theorem kinv_complete (G : PiDag) (ρ : Nat → Nat) (H : KHyp G ρ) (ord : List Nat) (rc : Array Nat)
    (hi : KInv G ord [] rc) : ∀ k v, ρ v < k → v < G.T.size → isLeaf G.T[v]! = true → v ∈ ord := by
  intro k
  induction k with
  | zero => intro v h; omega
  | succ k ih =>
    intro v hk hv hl
    apply Classical.byContradiction
    intro hn
    have hw := hi.wk v
    simp only [List.not_mem_nil, false_iff] at hw
    have hr : rem G ord v ≠ 0 := fun h0 => hw ⟨hn, hv, hl, h0⟩
    obtain ⟨u, hu, hul, hc⟩ := rem_pos G ord v hr
    obtain ⟨e, he, hev⟩ := cntV_pos hc
    have hrk := H.rank u hu e he
    rw [hev] at hrk
    exact hul (ih u (by omega) hu (H.ends u hu e he).2.1)

theorem go_spec (G : PiDag) (ρ : Nat → Nat) (H : KHyp G ρ) : ∀ (fuel : Nat) (ord work : List Nat) (rc : Array Nat),
    KInv G ord work rc → G.T.size + 1 ≤ fuel + ord.length →
    KFinal G (eliminate.go G fuel rc work ord.reverse) := by
  intro fuel
  induction fuel with
  | zero =>
    intro ord work rc hi hf
    exfalso
    have hsub : ord ⊆ List.range G.T.size := fun x hx => List.mem_range.mpr (hi.leaf x hx).1
    have := List.Nodup.length_le_of_subset hi.nd_ord hsub
    simp only [List.length_range] at this
    omega
  | succ fuel ih =>
    intro ord work rc hi hf
    cases work with
    | nil =>
      rw [go_nil, List.reverse_reverse]
      refine ⟨hi.nd_ord, hi.leaf, ?_, hi.topo, fun v hv hl => kinv_complete G ρ H ord rc hi (ρ v + 1) v (by omega) hv hl⟩
      rcases hi.hd with ⟨_, h⟩ | h
      · cases h
      · exact h
    | cons u w =>
      rw [go_succ]
      have := kinv_step G ρ H ord w rc u hi
      have e : u :: ord.reverse = (ord ++ [u]).reverse := by simp
      rw [e]
      exact ih _ _ _ this (by simp only [List.length_append, List.length_singleton]; omega)

theorem eliminate_final (G : PiDag) (ρ : Nat → Nat) (H : KHyp G ρ) : KFinal G (eliminate G) := by
  have := go_spec G ρ H (G.T.size + 1) [] [firstLeaf G] (indegrees G) (kinv_init G ρ H) (by simp)
  exact this

/-! ### the position table -/

theorem positionsFrom_get : ∀ (l : List Nat) (k0 : Nat) (p : Array (Option Nat)), l.Nodup → (∀ x ∈ l, x < p.size) →
    (∀ j (hj : j < l.length), (positionsFrom k0 l p)[l[j]]! = some (k0 + j)) := by
  intro l
  induction l with
  | nil => intro k0 p _ _ j hj; simp at hj
  | cons x r ih =>
    intro k0 p hnd hlt j hj
    rw [List.nodup_cons] at hnd
    simp only [positionsFrom]
    cases j with
    | zero =>
      simp only [List.getElem_cons_zero, Nat.add_zero]
      -- later updates do not touch `x`
      have hkeep : ∀ (l' : List Nat) (k1 : Nat) (q : Array (Option Nat)), x ∉ l' →
          (positionsFrom k1 l' q)[x]! = q[x]! := by
        intro l'
        induction l' with
        | nil => intro k1 q _; rfl
        | cons y r' ih' =>
          intro k1 q hx
          simp only [List.mem_cons, not_or] at hx
          simp only [positionsFrom]
          rw [ih' _ _ hx.2, setIfInBounds_get!]
          have : ¬ y = x := fun e => hx.1 e.symm
          simp [this]
      rw [hkeep r (k0 + 1) _ hnd.1, setIfInBounds_get!]
      simp [hlt x (by simp)]
    | succ j =>
      simp only [List.getElem_cons_succ]
      have := ih (k0 + 1) (p.setIfInBounds x (some k0)) hnd.2
        (by intro y hy; simpa using hlt y (by simp [hy])) j (by simpa using hj)
      rw [this]
      congr 1; omega

theorem positions_get (n : Nat) (ord : List Nat) (hnd : ord.Nodup) (hlt : ∀ x ∈ ord, x < n) (j : Nat) (hj : j < ord.length) :
    (positions n ord)[ord[j]]! = some j := by
  have := positionsFrom_get ord 0 (Array.replicate n none) hnd (by simpa using hlt) j hj
  simpa [positions] using this

/-! ### the certificate check -/

theorem indeg_inner_zero (G : PiDag) (ρ : Nat → Nat) (H : KHyp G ρ) (i : Nat) (hi : i < G.T.size)
    (hl : ¬ isLeaf G.T[i]! = true) : (indegrees G)[i]! = 0 := by
  rw [H.degrees i hi]
  apply rsum_eq_zero
  intro u hu
  apply Classical.byContradiction
  intro h0
  obtain ⟨e, he, hev⟩ := cntV_pos (show 0 < cntV (outEdges G u) i by omega)
  have := (H.ends u hu e he).2.2
  rw [hev] at this
  exact hl this

/-- **the elimination order is a valid certificate** -/
theorem wfCertificate_of_hyp (G : PiDag) (ρ : Nat → Nat) (H : KHyp G ρ) : wfCertificate G = true := by
  have F := eliminate_final G ρ H
  have hpos := positions_get G.T.size (eliminate G) F.nd (fun x hx => (F.leaf x hx).1)
  have hposmem : ∀ v ∈ eliminate G, ∃ j, ∃ hj : j < (eliminate G).length, (eliminate G)[j] = v ∧
      (positions G.T.size (eliminate G))[v]! = some j := by
    intro v hv
    obtain ⟨j, hj, e⟩ := List.mem_iff_getElem.mp hv
    exact ⟨j, hj, e, by rw [← e]; exact hpos j hj⟩
  unfold wfCertificate checkOrder
  simp only
  rw [if_neg (by simp [F.hd])]
  rw [if_neg (by
    simp only [Bool.not_eq_true', Bool.not_eq_false, List.all_eq_true, Bool.and_eq_true, decide_eq_true_eq]
    exact fun u hu => F.leaf u hu)]
  rw [if_neg (by simp [F.nd])]
  rw [if_neg (by
    simp only [Bool.not_eq_true', Bool.not_eq_false, List.all_eq_true, List.mem_range]
    intro i hi
    by_cases hl : isLeaf G.T[i]! = true
    · obtain ⟨j, _, _, hj⟩ := hposmem i (F.complete i hi hl)
      simp only [hl, if_true, hj, Option.isSome_some, Bool.true_and]
      by_cases hfl : i = firstLeaf G
      · subst hfl; simp [H.indeg_fl]
      · have := H.indeg_leaf i hi hl hfl
        simp [hfl, this]
    · have := indeg_inner_zero G ρ H i hi hl
      simp [hl, this])]
  simp only [List.all_eq_true, List.mem_range]
  intro u hu e he
  have hends := H.ends u hu e he
  obtain ⟨b, hb, hbe, hpb⟩ := hposmem e.v (F.complete e.v hends.1 hends.2.2)
  obtain ⟨a, hab, ha⟩ := F.topo b hb u hu e he hbe.symm
  have ha' : a < (eliminate G).length := by omega
  rw [List.getElem?_eq_getElem ha'] at ha
  have hpa := hpos a ha'
  rw [Option.some.inj ha] at hpa
  rw [hpa, hpb]
  simpa using hab

end MythVerif.PiDag
