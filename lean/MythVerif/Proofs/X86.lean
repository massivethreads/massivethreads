import MythVerif.Model.X86
import MythVerif.Generated.CtxAsm
/-!
Helper lemmas for C03: symbolic execution of the generated instruction lists.
Everything here is about the lists in `Generated/CtxAsm.lean`, i.e. about what
`src/myth_context_func.h` says at the time of the run.  Each save / restore half is executed
once, into a written-out final state (`exec_swapSave`, `exec_swapRestore`), the two callback
switches through one statement about lists of their shape (`callSwitch_effect`); the rest reads
those off.
-/
namespace MythVerif.X86
open MythVerif.Gen.Ctx

@[simp] theorem reg_setReg (m : M) (r q : Reg) (v : Int) :
    (setReg m r v).reg q = if q = r then v else m.reg q := rfl
@[simp] theorem mem_setReg (m : M) (r : Reg) (v : Int) : (setReg m r v).mem = m.mem := rfl
@[simp] theorem pc_setReg (m : M) (r : Reg) (v : Int) : (setReg m r v).pc = m.pc := rfl
@[simp] theorem reg_setMem (m : M) (a v : Int) : (setMem m a v).reg = m.reg := rfl
@[simp] theorem mem_setMem (m : M) (a v b : Int) :
    (setMem m a v).mem b = if b = a then v else m.mem b := rfl
@[simp] theorem pc_setMem (m : M) (a v : Int) : (setMem m a v).pc = m.pc := rfl
@[simp] theorem reg_setPc (m : M) (v : Int) : (setPc m v).reg = m.reg := rfl
@[simp] theorem mem_setPc (m : M) (v : Int) : (setPc m v).mem = m.mem := rfl
@[simp] theorem pc_setPc (m : M) (v : Int) : (setPc m v).pc = v := rfl

@[simp] theorem exec_nil (env : Env) (m : M) : exec env m [] = m := rfl
@[simp] theorem exec_cons (env : Env) (m : M) (i : Instr) (is : List Instr) :
    exec env m (i :: is) = exec env (exec1 env m i) is := rfl

theorem exec_append (env : Env) (m : M) (a b : List Instr) :
    exec env m (a ++ b) = exec env (exec env m a) b := List.foldl_append

/-- a template that suspends a thread with its registers saved -/
structure Suspend where
  save : List Instr
  restore : List Instr
  label : Nat
  ctx : Reg          -- register holding the address of the context word to save into

/-- a template that hands control to a saved or fresh context -/
structure Resume where
  switch : List Instr
  to : Reg           -- register holding the address of the target context word

/-- the two ways a thread gets suspended with its registers saved -/
def suspendKinds : List Suspend :=
  [⟨swapSave, swapRestore, swapLabel, swapFrom⟩, ⟨swapWcSave, swapWcRestore, swapWcLabel, swapWcFrom⟩]

/-- the four ways control is handed to a saved / fresh context -/
def resumeKinds : List Resume :=
  [⟨swapSwitch, swapTo⟩, ⟨swapWcSwitch, swapWcTo⟩, ⟨setSwitch, setTo⟩, ⟨setWcSwitch, setWcTo⟩]

/-- the resumers that run a callback on the target stack -/
def callbackKinds : List Resume := [⟨swapWcSwitch, swapWcTo⟩, ⟨setWcSwitch, setWcTo⟩]

/-! ## the save half -/

/-- the state a save half leaves: the frame is `[rsp − 192, rsp − 128)` with the slot at
    `rsp − 184` unused (`sub $8`), and the context word is written last.
    The constants 192 and 128 and the slot offsets, here and in `SaveSpec`, `RestoreSpec` and
    `exec_swapRestore`, restate the lists of `Generated/CtxAsm.lean`: when the templates change
    there, these statements stop being provable, which is what they are for. -/
theorem exec_swapSave (env : Env) (m : M) :
    exec env m swapSave =
      { reg := fun q =>
          if q = .rsp then m.reg .rsp - 192 else if q = .rbp then env.label 1 else m.reg q
        mem := fun a =>
          if a = m.reg .rax then m.reg .rsp - 192
          else if a = m.reg .rsp - 192 then env.label 1
          else if a = m.reg .rsp - 176 then m.reg .r15
          else if a = m.reg .rsp - 168 then m.reg .r14
          else if a = m.reg .rsp - 160 then m.reg .r13
          else if a = m.reg .rsp - 152 then m.reg .r12
          else if a = m.reg .rsp - 144 then m.reg .rbx
          else if a = m.reg .rsp - 136 then m.reg .rbp
          else m.mem a
        pc := m.pc } := by
  simp [exec1, swapSave, setReg, setMem, Int.sub_sub]
  funext q
  by_cases h : q = .rsp <;> simp [h]

/-- what a save half does to an arbitrary machine state `m` (`s` = the state after it):
    192 bytes taken, resume label and the six callee-saved registers at fixed offsets, new rsp
    stored into the context word, nothing else touched -/
structure SaveSpec (S : Suspend) (env : Env) (m s : M) : Prop where
  frame : frameBytes S.save = 192
  rsp : s.reg .rsp = m.reg .rsp - 192
  pc : s.pc = m.pc
  regs : ∀ r, r ≠ .rsp → r ≠ .rbp → s.reg r = m.reg r
  ctx : s.mem (m.reg S.ctx) = m.reg .rsp - 192
  mem : ∀ a, a ≠ m.reg S.ctx → (a < m.reg .rsp - 192 ∨ m.reg .rsp - 128 ≤ a) → s.mem a = m.mem a
  saved : m.reg S.ctx + 8 ≤ m.reg .rsp - 192 ∨ m.reg .rsp ≤ m.reg S.ctx →
      s.mem (m.reg .rsp - 192) = env.label S.label ∧
      s.mem (m.reg .rsp - 192 + 16) = m.reg .r15 ∧ s.mem (m.reg .rsp - 192 + 24) = m.reg .r14 ∧
      s.mem (m.reg .rsp - 192 + 32) = m.reg .r13 ∧ s.mem (m.reg .rsp - 192 + 40) = m.reg .r12 ∧
      s.mem (m.reg .rsp - 192 + 48) = m.reg .rbx ∧ s.mem (m.reg .rsp - 192 + 56) = m.reg .rbp

theorem save_effect_swap (env : Env) (m : M) :
    SaveSpec ⟨swapSave, swapRestore, swapLabel, swapFrom⟩ env m (exec env m swapSave) := by
  rw [exec_swapSave]
  constructor
  case frame => decide
  case regs => intro r h1 h2; simp [h1, h2]
  case mem =>
    intro a h1 h2
    simp only [swapFrom] at h1
    simp only [if_neg h1]
    repeat rw [if_neg (by omega)]
  case saved =>
    intro h
    have hctx : ∀ k : Int, 128 < k → k ≤ 192 → m.reg .rsp - k ≠ m.reg .rax := by
      intro k _ _; simp only [swapFrom] at h; omega
    have hoff : ∀ k : Int, m.reg .rsp - 192 + k = m.reg .rsp - (192 - k) := by intro k; omega
    simp [hctx, hoff, swapLabel]
  all_goals simp [swapFrom]

/-- the two swap templates share their save and restore halves verbatim -/
theorem save_effect (S : Suspend) (hS : S ∈ suspendKinds) (env : Env) (m : M) :
    SaveSpec S env m (exec env m S.save) := by
  simp only [suspendKinds, List.mem_cons, List.not_mem_nil, or_false] at hS
  rcases hS with rfl | rfl <;> exact save_effect_swap env m

/-! ## the restore half -/

theorem exec_swapRestore (env : Env) (m : M) :
    exec env m swapRestore =
      { reg := fun q =>
          if q = .rsp then m.reg .rsp + 184
          else if q = .rbp then m.mem (m.reg .rsp + 48)
          else if q = .rbx then m.mem (m.reg .rsp + 40)
          else if q = .r12 then m.mem (m.reg .rsp + 32)
          else if q = .r13 then m.mem (m.reg .rsp + 24)
          else if q = .r14 then m.mem (m.reg .rsp + 16)
          else if q = .r15 then m.mem (m.reg .rsp + 8)
          else m.reg q
        mem := m.mem
        pc := m.pc } := by
  simp [exec1, swapRestore, setReg, Int.add_assoc]
  funext q
  by_cases h : q = .rsp <;> simp [h]

/-- what a restore half does when entered with `rsp = T + 8` (the resumer has popped the label) -/
structure RestoreSpec (m s : M) : Prop where
  rsp : s.reg .rsp = m.reg .rsp - 8 + 192
  mem : s.mem = m.mem
  pc : s.pc = m.pc
  r15 : s.reg .r15 = m.mem (m.reg .rsp + 8)
  r14 : s.reg .r14 = m.mem (m.reg .rsp + 16)
  r13 : s.reg .r13 = m.mem (m.reg .rsp + 24)
  r12 : s.reg .r12 = m.mem (m.reg .rsp + 32)
  rbx : s.reg .rbx = m.mem (m.reg .rsp + 40)
  rbp : s.reg .rbp = m.mem (m.reg .rsp + 48)
  others : ∀ r, r ∉ calleeSaved → r ≠ .rsp → s.reg r = m.reg r

theorem restore_effect_swap (env : Env) (m : M) : RestoreSpec m (exec env m swapRestore) := by
  rw [exec_swapRestore]
  constructor
  case rsp => simp only [if_pos]; omega
  case others =>
    intro r hr hsp
    simp only [calleeSaved, List.mem_cons, List.not_mem_nil, or_false, not_or] at hr
    simp [hr, hsp]
  all_goals simp

/-- the same with the offsets counted from `T`, as `SaveSpec.saved` has them -/
theorem RestoreSpec.frame {m s : M} (h : RestoreSpec m s) {T : Int} (hT : m.reg .rsp = T + 8) :
    s.reg .rsp = T + 192 ∧
    s.reg .r15 = m.mem (T + 16) ∧ s.reg .r14 = m.mem (T + 24) ∧ s.reg .r13 = m.mem (T + 32) ∧
    s.reg .r12 = m.mem (T + 40) ∧ s.reg .rbx = m.mem (T + 48) ∧ s.reg .rbp = m.mem (T + 56) := by
  obtain ⟨h0, _, _, h15, h14, h13, h12, hbx, hbp, _⟩ := h
  simp only [hT, Int.add_assoc, Int.reduceAdd] at h0 h15 h14 h13 h12 hbx hbp
  exact ⟨by omega, h15, h14, h13, h12, hbx, hbp⟩

theorem restore_effect (S : Suspend) (hS : S ∈ suspendKinds) (env : Env) (m : M) :
    RestoreSpec m (exec env m S.restore) := by
  simp only [suspendKinds, List.mem_cons, List.not_mem_nil, or_false] at hS
  rcases hS with rfl | rfl <;> exact restore_effect_swap env m

/-! ## the switch halves -/

@[simp] theorem callEntry_rsp (env : Env) (m : M) : (callEntry env m).reg .rsp = m.reg .rsp - 8 := by
  simp [callEntry]
theorem callEntry_reg (env : Env) (m : M) (r : Reg) (h : r ≠ .rsp) : (callEntry env m).reg r = m.reg r := by
  simp [callEntry, h]
@[simp] theorem callEntry_mem (env : Env) (m : M) (a : Int) :
    (callEntry env m).mem a = if a = m.reg .rsp - 8 then env.retAddr else m.mem a := by
  simp [callEntry]
@[simp] theorem callEntry_pc (env : Env) (m : M) : (callEntry env m).pc = m.pc := by
  simp [callEntry]

/-- `mov (%r),%rsp; call f; pop %rax; jmp *%rax` with `f` a SysV callee on the stack `[lo, T)`:
    `f` is entered on the target stack with only the return address written, and what it may
    change is below `T` or in `W`, so the word at `T` popped afterwards is not its own -/
theorem callSwitch_effect (env : Env) (m : M) (r : Reg) (lo : Int) (W : Int → Prop)
    (hsys : ObeysSysV env.callee lo W) :
    let T := m.mem (m.reg r)
    let E := callEntry env (exec env m [.loadRsp r])
    let s := exec env m [.loadRsp r, .call, .pop .rax, .jmpReg .rax]
    s = exec env (env.callee E) [.pop .rax, .jmpReg .rax] ∧
    E.reg .rsp = T - 8 ∧
    (∀ q, q ≠ .rsp → E.reg q = m.reg q) ∧
    (∀ a, a ≠ T - 8 → E.mem a = m.mem a) ∧
    (lo + 8 ≤ T → s.reg .rsp = T + 8 ∧ s.pc = s.mem T ∧
      ∀ a, s.mem a ≠ m.mem a → (lo ≤ a ∧ a < T) ∨ W a) := by
  intro T E s
  have hE : E.reg .rsp = T - 8 := by simp [E, T, exec1]
  have hEm : ∀ a, E.mem a = if a = T - 8 then env.retAddr else m.mem a := by simp [E, T, exec1]
  have hs : s = exec env (env.callee E) [.pop .rax, .jmpReg .rax] := rfl
  refine ⟨hs, hE, ?_, ?_, ?_⟩
  · intro q hq; simp [E, exec1, callEntry_reg, hq]
  · intro a ha; rw [hEm, if_neg ha]
  · intro hlo
    have hret := hsys.ret E
    have hfr := hsys.frame E
    simp only [hE, hEm] at hret hfr
    have hrsp : (env.callee E).reg .rsp = T := by omega
    rw [hs]
    refine ⟨by simp [exec1, hrsp], by simp [exec1, hrsp], ?_⟩
    intro a ha
    have ha' : (env.callee E).mem a ≠ m.mem a := by simpa [exec1] using ha
    by_cases h8 : a = T - 8
    · left; omega
    · rcases hfr a (by simpa [h8] using ha') with h | h
      · left; omega
      · right; exact h

/-- effect of a switch half: rsp comes from the target context word, the callback (if any) runs
    with rsp 8 below the target rsp, then the target's resume address is popped and jumped to -/
theorem switch_effect (K : Resume) (hK : K ∈ resumeKinds) (env : Env) (m : M) (lo : Int)
    (W : Int → Prop) (hsys : ObeysSysV env.callee lo W) :
    let T := m.mem (m.reg K.to)
    let s := exec env m K.switch
    (lo + 8 ≤ T →
      s.reg .rsp = T + 8 ∧ s.pc = s.mem T ∧
      (∀ a, s.mem a ≠ m.mem a → (lo ≤ a ∧ a < T) ∨ W a)) := by
  simp only [resumeKinds, List.mem_cons, List.not_mem_nil, or_false] at hK
  rcases hK with rfl | rfl | rfl | rfl
  · simp [exec1, swapSwitch, swapTo]
  · exact (callSwitch_effect env m _ lo W hsys).2.2.2.2
  · simp [exec1, setSwitch, setTo]
  · exact (callSwitch_effect env m _ lo W hsys).2.2.2.2

/-- registers an instruction list writes (besides rsp) -/
def written : List Instr → List Reg
  | [] => []
  | .pop r :: is => r :: written is
  | .leaLabel r _ :: is => r :: written is
  | _ :: is => written is

/-- registers a SysV callee may destroy -/
def callerSaved : List Reg := [.rax, .rcx, .rdx, .rsi, .rdi, .r8, .r9, .r10, .r11]

/-! ## a concrete callee / environment for the non-vacuity examples -/

/-- a callee that uses its frame, destroys caller-saved registers and returns -/
def exCallee (m : M) : M :=
  let sp := m.reg .rsp
  if 1000 ≤ sp then
    setReg (setReg (setReg (setMem (setMem m (sp - 8) 777) (sp - 64) 888) .rax 999) .rcx 998) .rsp (sp + 8)
  else setReg m .rsp (sp + 8)

theorem exCallee_sysv : ObeysSysV exCallee 0 (fun _ => False) := by
  constructor
  · intro m r hr
    have : r ≠ .rax ∧ r ≠ .rcx ∧ r ≠ .rsp := by revert r; decide
    unfold exCallee
    dsimp only; split <;> simp [this]
  · intro m
    unfold exCallee
    dsimp only; split <;> simp
  · intro m a
    unfold exCallee
    dsimp only; split
    · simp only [mem_setReg, mem_setMem]
      intro h; left
      split at h
      · omega
      · split at h
        · omega
        · exact absurd rfl h
    · simp

def exEnv : Env := { label := fun n => 4000000 + n, retAddr := 4100000, callee := exCallee }

end MythVerif.X86
