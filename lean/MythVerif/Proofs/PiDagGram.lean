import MythVerif.Proofs.DagRecTotals
/-! The shape of the in-memory DAGs `record` produces: the grammar of the execution tree
(`task ::= (section | other)* end`, `section ::= (section | create task | other)* wait`) with any
subset of the sections / tasks collapsed (no children).  Every contraction policy of the recorder
(including the budget walk) keeps this shape. -/
namespace MythVerif.DagRec

/-- the closing interval of a task / section -/
def gLast (inTask : Bool) : DNode → Bool
  | .ival i => if inTask then i.c.kind == .endTask else i.c.kind == .waitTasks
  | _ => false

mutual
def gForest (inTask : Bool) : DList → Bool
  | .nil => false
  | .cons d .nil => gLast inTask d
  | .cons d (.cons d' r) => gItem inTask d && gForest inTask (.cons d' r)
def gItem (inTask : Bool) : DNode → Bool
  | .ival i => i.c.kind == .other
  | .create i ch => !inTask && i.c.kind == .createTask && gTask ch
  | .group i ds => i.c.kind == .section && (ds.isNil || gForest false ds)
/-- a task, collapsed or with (recursively well-shaped) children -/
def gTask : DNode → Bool
  | .group i ds => i.c.kind == .task && (ds.isNil || gForest true ds)
  | _ => false
end

/-- a group of kind `k` (children of a task when `inTask`), collapsed or not -/
def gGroup (k : NKind) (inTask : Bool) (i : Info) (ds : DList) : Bool :=
  i.c.kind == k && (ds.isNil || gForest inTask ds)

theorem gItem_group (b : Bool) (i : Info) (ds : DList) : gItem b (.group i ds) = gGroup .section false i ds := by
  simp [gItem, gGroup]
theorem gTask_group (i : Info) (ds : DList) : gTask (.group i ds) = gGroup .task true i ds := by
  simp [gTask, gGroup]

theorem gForest_cons2 (b : Bool) (d d' : DNode) (r : DList) :
    gForest b (.cons d (.cons d' r)) = (gItem b d && gForest b (.cons d' r)) := by
  simp [gForest]

theorem gForest_isNil {b : Bool} {ds : DList} (h : gForest b ds = true) : ds.isNil = false := by
  cases ds with
  | nil => simp [gForest] at h
  | cons _ _ => rfl

theorem gForest_cons {b : Bool} {d : DNode} {r : DList} (h1 : gItem b d = true) (h2 : gForest b r = true) :
    gForest b (.cons d r) = true := by
  cases r with
  | nil => simp [gForest] at h2
  | cons d' r' => rw [gForest_cons2, h1, h2]; rfl

/-- replacing the children of a group by well-shaped ones (or by none) keeps the group well shaped -/
theorem gGroup_of {k : NKind} {b : Bool} {i j : Info} {ds ds' : DList} (h : gGroup k b i ds = true)
    (hk : j.c.kind = i.c.kind) (hds : ds'.isNil = true ∨ (gForest b ds = true → gForest b ds' = true) ∧ ds'.isNil = ds.isNil) :
    gGroup k b j ds' = true := by
  simp only [gGroup, Bool.and_eq_true, Bool.or_eq_true, hk] at h ⊢
  refine ⟨h.1, ?_⟩
  rcases hds with hn | ⟨hf, hn⟩
  · exact Or.inl hn
  · rw [hn]; exact h.2.imp id hf

/-- a transformation that maps groups to groups as `gGroup_of` asks keeps items and tasks well shaped -/
theorem gram_of_group {f : DNode → DNode} {i : Info} {ds : DList}
    (key : ∀ (k : NKind) (bb : Bool), gGroup k bb i ds = true →
      ∃ j ds', f (.group i ds) = .group j ds' ∧ gGroup k bb j ds' = true) (b : Bool) :
    (gItem b (.group i ds) = true → gItem b (f (.group i ds)) = true) ∧
    (gLast b (.group i ds) = true → gLast b (f (.group i ds)) = true) ∧
    (gTask (.group i ds) = true → gTask (f (.group i ds)) = true) := by
  refine ⟨fun h => ?_, by simp [gLast], fun h => ?_⟩
  · rw [gItem_group] at h
    obtain ⟨j, ds', e, hj⟩ := key _ _ h
    rw [e, gItem_group]; exact hj
  · rw [gTask_group] at h
    obtain ⟨j, ds', e, hj⟩ := key _ _ h
    rw [e, gTask_group]; exact hj

mutual
theorem pruneNode_gram (v : Variant) : ∀ (d : DNode) (bud : Int) (b : Bool),
    (gItem b d = true → gItem b (pruneNode v d bud) = true) ∧
    (gLast b d = true → gLast b (pruneNode v d bud) = true) ∧
    (gTask d = true → gTask (pruneNode v d bud) = true)
  | .ival i, bud, b => by simp [pruneNode]
  | .create i ch, bud, b => by
    have ih := pruneNode_gram v ch (bud - 1) b
    simp only [pruneNode, gItem, gLast, gTask, Bool.and_eq_true]
    exact ⟨fun h => ⟨h.1, ih.2.2 h.2⟩, fun h => h, fun h => h⟩
  | .group i ds, bud, b => by
    apply gram_of_group (f := fun d => pruneNode v d bud)
    intro k bb h
    unfold pruneNode
    split
    · exact ⟨i, ds, rfl, h⟩
    · split
      · exact ⟨i, ds, rfl, h⟩
      · split
        · exact ⟨_, _, rfl, gGroup_of h rfl (Or.inl rfl)⟩
        · refine ⟨_, _, rfl, gGroup_of h rfl (Or.inr ⟨pruneList_gram v ds _ _ bb, ?_⟩)⟩
          cases ds <;> rfl
theorem pruneList_gram (v : Variant) : ∀ (ds : DList) (bl nl : Int) (b : Bool),
    gForest b ds = true → gForest b (pruneList v ds bl nl).1 = true
  | .nil, _, _, _, h => by simp [gForest] at h
  | .cons d .nil, bl, nl, b, h => by
    simp only [gForest] at h
    simp only [pruneList, gForest]
    exact (pruneNode_gram v d _ b).2.1 h
  | .cons d (.cons d' r), bl, nl, b, h => by
    rw [gForest_cons2, Bool.and_eq_true] at h
    exact gForest_cons ((pruneNode_gram v d _ b).1 h.1) (pruneList_gram v (.cons d' r) _ _ b h.2)
end

theorem collapse_gram (v : Variant) (i : Info) (ds : DList) (b : Bool) :
    (gItem b (.group i ds) = true → gItem b (collapse v i) = true) ∧
    (gTask (.group i ds) = true → gTask (collapse v i) = true) := by
  simp only [collapse, gItem, gTask, Bool.and_eq_true, DList.isNil, Bool.true_or, and_true]
  exact ⟨fun h => h.1, fun h => h.1⟩

theorem summarize_gram (v : Variant) (o : Opts) (i : Info) (ds : DList) (b : Bool) :
    (gItem b (.group i ds) = true → gItem b (summarize v o i ds) = true) ∧
    (gTask (.group i ds) = true → gTask (summarize v o i ds) = true) := by
  have hc := collapse_gram v i ds b
  unfold summarize
  split
  · split
    · exact ⟨(pruneNode_gram v _ _ b).1, (pruneNode_gram v _ _ b).2.2⟩
    · exact ⟨id, id⟩
  · split
    · split
      · exact hc
      · exact ⟨id, id⟩
    · split
      · exact hc
      · exact ⟨id, id⟩

mutual
theorem recTree_gram (v : Variant) (o : Opts) : ∀ (t : Tree) (c : Cursor) (b : Bool),
    (wnItem b t = true → gItem b (recTree v (summarize v o) t c).1 = true) ∧
    (isLast b t = true → gLast b (recTree v (summarize v o) t c).1 = true) ∧
    (wnTask t = true → gTask (recTree v (summarize v o) t c).1 = true)
  | .ival k r, c, b => by
    simp only [recTree, wnItem, isLast, wnTask, gItem, gLast, endInterval]
    exact ⟨id, id, fun h => by cases h⟩
  | .create r child, c, b => by
    have ih := recTree_gram v o child (cursorAfter (endInterval .createTask r c) .create) b
    simp only [recTree, wnItem, isLast, wnTask, gItem, gLast, Bool.and_eq_true]
    refine ⟨fun h => ⟨⟨h.1, by simp [endInterval]⟩, ih.2.2 h.2⟩, ?_, ?_⟩ <;> (intro h; cases h)
  | .group k f, c, b => by
    simp only [recTree, wnItem, isLast, wnTask, Bool.and_eq_true]
    refine ⟨fun h => ?g1, ?g2, fun h => ?g3⟩
    case g2 => intro h; cases h
    · apply (summarize_gram v o _ _ b).1
      have ih := recForest_gram v o f c false h.2
      simp only [gItem, Bool.and_eq_true, Bool.or_eq_true]
      exact ⟨by rw [accumulate_kind]; exact h.1, Or.inr ih⟩
    · apply (summarize_gram v o _ _ b).2
      have ih := recForest_gram v o f c true h.2
      simp only [gTask, Bool.and_eq_true, Bool.or_eq_true]
      exact ⟨by rw [accumulate_kind]; exact h.1, Or.inr ih⟩
theorem recForest_gram (v : Variant) (o : Opts) : ∀ (f : Forest) (c : Cursor) (b : Bool), wnForest b f = true →
    gForest b (recForest v (summarize v o) f c).1 = true
  | .nil, c, b, h => by simp [wnForest] at h
  | .cons t .nil, c, b, h => by
    simp only [wnForest] at h
    simp only [recForest, gForest]
    exact (recTree_gram v o t c b).2.1 h
  | .cons t (.cons t' rest), c, b, h => by
    simp only [wnForest, Bool.and_eq_true] at h
    exact gForest_cons ((recTree_gram v o t c b).1 h.1) (recForest_gram v o (.cons t' rest) _ b h.2)
end

/-- **every in-memory DAG the recorder produces has the shape `gTask`**, whatever the contraction options -/
theorem record_gram (v : Variant) (o : Opts) (sc : Nat) (t : Tree) (h : wnTask t = true) :
    gTask (record v o sc t) = true :=
  (recTree_gram v o t (rootCursor sc) true).2.2 h

end MythVerif.DagRec
