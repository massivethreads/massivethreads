import MythVerif.Proofs.PiDagLayout
import MythVerif.Proofs.PiDagGram
/-! Tools for reasoning about a laid-out DAG: every slot carries a laid-out subtree, sums over all
slots are sums over the tree, sums over the children slots are sums over the child list. -/
namespace MythVerif.PiDag
open MythVerif.DagRec

/-! ### the context-free part of the shape -/

def isTaskG : DNode → Bool
  | .group i _ => i.c.kind == .task
  | _ => false

theorem isGroupK_ne_create {k : NKind} (h : isGroupK k = true) : (k == NKind.createTask) = false := by
  cases k <;> simp_all [isGroupK]

mutual
/-- kinds agree with constructors: intervals are neither create nodes nor sections / tasks, the
    child of a create node is a task -/
def gW : DNode → Bool
  | .ival i => !(i.c.kind == .createTask) && !isGroupK i.c.kind
  | .create i ch => i.c.kind == .createTask && isTaskG ch && gW ch
  | .group i ds => isGroupK i.c.kind && gWL ds
def gWL : DList → Bool
  | .nil => true
  | .cons d r => gW d && gWL r
end

theorem gLast_gW {b : Bool} {d : DNode} (h : gLast b d = true) : gW d = true := by
  cases d with
  | ival i =>
    simp only [gLast] at h
    simp only [gW, isGroupK]
    cases b <;> simp at h <;> simp [h]
  | create _ _ => simp [gLast] at h
  | group _ _ => simp [gLast] at h

theorem gTask_isTaskG {d : DNode} (h : gTask d = true) : isTaskG d = true := by
  cases d with
  | group i ds => simp only [gTask, Bool.and_eq_true] at h; exact h.1
  | ival _ => simp [gTask] at h
  | create _ _ => simp [gTask] at h

theorem gWL_children {b : Bool} {ds : DList} (h : (ds.isNil || gForest b ds) = true)
    (ih : gForest b ds = true → gWL ds = true) : gWL ds = true := by
  rcases Bool.or_eq_true _ _ ▸ h with h2 | h2
  · cases ds with
    | nil => rfl
    | cons _ _ => simp [DList.isNil] at h2
  · exact ih h2

mutual
theorem gItem_gW : ∀ (d : DNode) (b : Bool), gItem b d = true → gW d = true
  | .ival i, b, h => by
    simp only [gItem] at h
    simp only [gW, isGroupK]
    simp at h; simp [h]
  | .create i ch, b, h => by
    simp only [gItem, Bool.and_eq_true] at h
    simp only [gW, Bool.and_eq_true]
    exact ⟨⟨h.1.2, gTask_isTaskG h.2⟩, gTask_gW ch h.2⟩
  | .group i ds, b, h => by
    simp only [gItem, Bool.and_eq_true] at h
    simp only [gW, Bool.and_eq_true, isGroupK, Bool.or_eq_true]
    exact ⟨Or.inl h.1, gWL_children h.2 (gForest_gWL ds false)⟩
theorem gTask_gW : ∀ (d : DNode), gTask d = true → gW d = true
  | .ival i, h => by simp [gTask] at h
  | .create i ch, h => by simp [gTask] at h
  | .group i ds, h => by
    simp only [gTask, Bool.and_eq_true] at h
    simp only [gW, Bool.and_eq_true, isGroupK, Bool.or_eq_true]
    exact ⟨Or.inr h.1, gWL_children h.2 (gForest_gWL ds true)⟩
theorem gForest_gWL : ∀ (ds : DList) (b : Bool), gForest b ds = true → gWL ds = true
  | .nil, _, h => by simp [gForest] at h
  | .cons d .nil, b, h => by
    simp only [gForest] at h
    simp only [gWL, Bool.and_eq_true, and_true]
    exact gLast_gW h
  | .cons d (.cons d' r), b, h => by
    rw [gForest_cons2, Bool.and_eq_true] at h
    simp only [gWL, Bool.and_eq_true]
    have := gForest_gWL (.cons d' r) b h.2
    simp only [gWL, Bool.and_eq_true] at this
    exact ⟨gItem_gW d b h.1, this⟩
end

/-! ### every slot carries a laid-out subtree -/

/-- slot `g` carries a (well-kinded) subtree whose descendants lie in `[lo, hi)` -/
def SlotOK (T : Array PNode) (g lo hi : Nat) : Prop :=
  ∃ d' b', LayN T d' g b' ∧ gW d' = true ∧ lo ≤ b' ∧ b' + descT d' ≤ hi

mutual
theorem LayN_slots (T : Array PNode) : ∀ (d : DNode) (idx base : Nat), LayN T d idx base → gW d = true →
    ∀ g, base ≤ g → g < base + descT d → SlotOK T g base (base + descT d)
  | .ival _, _, _, _, _ => by intro g h1 h2; simp [descT] at h2; omega
  | .create i ch, idx, base, hl, hw => by
    intro g h1 h2
    simp only [LayN] at hl
    simp only [gW, Bool.and_eq_true] at hw
    simp only [descT] at h2 ⊢
    by_cases hg : g = base
    · subst hg
      exact ⟨ch, g + 1, hl.2.2.2, hw.2, by omega, by omega⟩
    · obtain ⟨d', b', q1, q2, q3, q4⟩ := LayN_slots T ch base (base + 1) hl.2.2.2 hw.2 g (by omega) (by omega)
      exact ⟨d', b', q1, q2, by omega, by omega⟩
  | .group i ds, idx, base, hl, hw => by
    intro g h1 h2
    simp only [LayN] at hl
    simp only [gW, Bool.and_eq_true] at hw
    simp only [descT] at h2 ⊢
    rw [descL_eq] at h2 ⊢
    obtain ⟨d', b', q1, q2, q3, q4⟩ := LayL_slots T ds base (base + ds.length) hl.2.2.2 hw.2 g (by omega)
    exact ⟨d', b', q1, q2, by omega, by omega⟩
theorem LayL_slots (T : Array PNode) : ∀ (ds : DList) (k base : Nat), LayL T ds k base → gWL ds = true →
    ∀ g, (k ≤ g ∧ g < k + ds.length) ∨ (base ≤ g ∧ g < base + descS ds) → SlotOK T g base (base + descS ds)
  | .nil, _, _, _, _ => by intro g h; simp [DList.length, descS] at h; omega
  | .cons d r, k, base, hl, hw => by
    intro g h
    simp only [LayL] at hl
    simp only [gWL, Bool.and_eq_true] at hw
    simp only [DList.length, descS] at h ⊢
    by_cases hg : g = k
    · subst hg
      exact ⟨d, base, hl.1, hw.1, by omega, by omega⟩
    · by_cases hd : base ≤ g ∧ g < base + descT d
      · obtain ⟨d', b', q1, q2, q3, q4⟩ := LayN_slots T d k base hl.1 hw.1 g hd.1 hd.2
        exact ⟨d', b', q1, q2, by omega, by omega⟩
      · obtain ⟨d', b', q1, q2, q3, q4⟩ := LayL_slots T r (k + 1) (base + descT d) hl.2 hw.2 g (by omega)
        exact ⟨d', b', q1, q2, by omega, by omega⟩
end

/-- every slot of a laid-out DAG carries a laid-out subtree inside the DAG -/
theorem slot_all (T : Array PNode) (d : DNode) (hl : LayN T d 0 1) (hn : T.size = 1 + descT d) (hw : gW d = true)
    (g : Nat) (hg : g < T.size) : SlotOK T g 1 T.size := by
  by_cases h0 : g = 0
  · subst h0; exact ⟨d, 1, hl, hw, by omega, by omega⟩
  · rw [hn]; exact LayN_slots T d 0 1 hl hw g (by omega) (by omega)

/-- the `j`-th child slot of a laid-out list -/
theorem LayL_child (T : Array PNode) : ∀ (ds : DList) (k base : Nat), LayL T ds k base → gWL ds = true →
    ∀ g, k ≤ g → g < k + ds.length → SlotOK T g base (base + descS ds) :=
  fun ds k base hl hw g h1 h2 => LayL_slots T ds k base hl hw g (Or.inl ⟨h1, h2⟩)

/-! ### sums over all slots = sums over the tree -/

mutual
/-- sum over the tree of a function of the local layout -/
def tsN (φ : DNode → Nat → Nat → Nat) : DNode → Nat → Nat → Nat
  | .ival i, idx, base => φ (.ival i) idx base
  | .create i ch, idx, base => φ (.create i ch) idx base + tsN φ ch base (base + 1)
  | .group i ds, idx, base => φ (.group i ds) idx base + tsL φ ds base (base + ds.length)
def tsL (φ : DNode → Nat → Nat → Nat) : DList → Nat → Nat → Nat
  | .nil, _, _ => 0
  | .cons d r, k, base => tsN φ d k base + tsL φ r (k + 1) (base + descT d)
end

-- `d` sits in slot `idx`, its descendants in the block of slots `[base, base + descT d)`.  If what a slot
-- contributes is determined by the node laid out there and that node's own position (`H`), the sum over slot and
-- block is the structural sum `tsN`; `sumL`: the same for siblings in slots `k, k + 1, …`.  This is how a sum over
-- the node array becomes a recursion over the tree.
mutual
theorem sumN (T : Array PNode) (f : Nat → Nat) (φ : DNode → Nat → Nat → Nat) (hi : Nat)
    (H : ∀ d' g b', LayN T d' g b' → gW d' = true → b' + descT d' ≤ hi → f g = φ d' g b') :
    ∀ (d : DNode) (idx base : Nat), LayN T d idx base → gW d = true → base + descT d ≤ hi →
      f idx + isum base (descT d) f = tsN φ d idx base
  | .ival i, idx, base, hl, hw, hb => by simp [descT, isum_zero, tsN, H _ _ _ hl hw hb]
  | .create i ch, idx, base, hl, hw, hb => by
    have h0 := H _ _ _ hl hw hb
    simp only [LayN] at hl
    simp only [gW, Bool.and_eq_true] at hw
    simp only [descT] at hb
    have ih := sumN T f φ hi H ch base (base + 1) hl.2.2.2 hw.2 (by omega)
    simp only [descT, tsN]
    rw [Nat.add_comm 1, isum_succ_left, h0]
    omega
  | .group i ds, idx, base, hl, hw, hb => by
    have h0 := H _ _ _ hl hw hb
    simp only [LayN] at hl
    simp only [gW, Bool.and_eq_true] at hw
    simp only [descT] at hb
    rw [descL_eq] at hb
    have ih := sumL T f φ hi H ds base (base + ds.length) hl.2.2.2 hw.2 (by omega)
    simp only [descT, tsN]
    rw [descL_eq, isum_add, h0]
    omega
theorem sumL (T : Array PNode) (f : Nat → Nat) (φ : DNode → Nat → Nat → Nat) (hi : Nat)
    (H : ∀ d' g b', LayN T d' g b' → gW d' = true → b' + descT d' ≤ hi → f g = φ d' g b') :
    ∀ (ds : DList) (k base : Nat), LayL T ds k base → gWL ds = true → base + descS ds ≤ hi →
      isum k ds.length f + isum base (descS ds) f = tsL φ ds k base
  | .nil, _, _, _, _, _ => by simp [DList.length, descS, isum_zero, tsL]
  | .cons d r, k, base, hl, hw, hb => by
    simp only [LayL] at hl
    simp only [gWL, Bool.and_eq_true] at hw
    simp only [descS] at hb
    have ih1 := sumN T f φ hi H d k base hl.1 hw.1 (by omega)
    have ih2 := sumL T f φ hi H r (k + 1) (base + descT d) hl.2 hw.2 (by omega)
    simp only [DList.length, descS, tsL]
    rw [isum_succ_left, isum_add]
    omega
end

/-- the sum over all slots of a laid-out DAG -/
theorem sum_all (T : Array PNode) (f : Nat → Nat) (φ : DNode → Nat → Nat → Nat)
    (H : ∀ d' g b', LayN T d' g b' → gW d' = true → b' + descT d' ≤ T.size → f g = φ d' g b')
    (d : DNode) (hl : LayN T d 0 1) (hn : T.size = 1 + descT d) (hw : gW d = true) :
    rsum T.size f = tsN φ d 0 1 := by
  rw [rsum_eq_isum]
  conv => lhs; rw [hn]
  rw [Nat.add_comm 1, isum_succ_left]
  exact sumN T f φ T.size H d 0 1 hl hw (by omega)

/-! ### sums over the children slots = sums over the child list -/

def sumD (ψ : DNode → Nat) : DList → Nat
  | .nil => 0
  | .cons d r => ψ d + sumD ψ r

theorem isum_children (T : Array PNode) (f : Nat → Nat) (ψ : DNode → Nat)
    (H : ∀ d' g b', LayN T d' g b' → gW d' = true → f g = ψ d') :
    ∀ (ds : DList) (k base : Nat), LayL T ds k base → gWL ds = true → isum k ds.length f = sumD ψ ds
  | .nil, _, _, _, _ => rfl
  | .cons d r, k, base, hl, hw => by
    simp only [LayL] at hl
    simp only [gWL, Bool.and_eq_true] at hw
    simp only [DList.length, sumD]
    rw [isum_succ_left, H _ _ _ hl.1 hw.1, isum_children T f ψ H r (k + 1) _ hl.2 hw.2]

end MythVerif.PiDag
