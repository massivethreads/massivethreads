import MythVerif.Proofs.WsQueueStepO
import MythVerif.Proofs.WsQueueStepT
/-! The invariant is inductive: every step of the SC machine preserves it; hence it holds in every
    reachable state, for every number of participants and every capacity. -/
namespace MythVerif.Wsq

theorem stepO_of (s : St) : step s .o = stepO s := rfl
theorem stepT_of (s : St) (p : Pid) : step s (.t p) = stepT s p := rfl

/-- a call enters at a program counter of the class of `idle` -/
theorem callO_inv {s s' : St} {pc : OPc} (h : Inv s) (hs : callO s pc = some s')
    (hpc : ownerLocked pc = false ∧ midPop pc = false ∧ topSync pc = true ∧ baseSync pc = true ∧ ownerFlight pc = false)
    (hcl : OwnerAt s pc) : Inv s' := by
  simp only [callO] at hs
  split at hs <;> cases hs
  exact h.owner_move (pc := .idle) ‹_› hpc.1 hpc.2.1 hpc.2.2.1 hpc.2.2.2.1 hpc.2.2.2.2 hcl

theorem callT_inv {s s' : St} {p : Pid} {pc : TPc} (h : Inv s) (hs : callT s p pc = some s')
    (hpc : thiefLocked pc = false ∧ transient pc = false ∧ thiefFlight pc = false) (hcl : ThiefAt s pc) :
    Inv s' := by
  simp only [callT] at hs
  split at hs <;> cases hs
  exact h.thief_move (pc := .idle) ‹_› hpc.1 hpc.2.1 hpc.2.2 hcl

theorem step_inv (s : St) (l : Lbl) (s' : St) : Inv s → step s l = some s' → Inv s' := by
  intro h hs
  cases l with
  | oPush e | oPop | oPut e | oClear => exact callO_inv h hs ⟨rfl, rfl, rfl, rfl, rfl⟩ trivial
  | o => exact stepO_inv s s' h hs
  | tTake p | tWTake p | tPass p e | tPeek p | tWPeek p => exact callT_inv h hs ⟨rfl, rfl, rfl⟩ trivial
  | t p => exact stepT_inv s s' p h hs
  | tDecide p a => exact stepD_inv s s' p a h hs

theorem init_inv (n : Int) (hn : 0 ≤ n) : Inv (init n) := by
  constructor
  all_goals simp [init, ownerLocked, thiefLocked, transient, midPop, topSync, baseSync, ownerFlight, thiefFlight]
  all_goals omega

theorem reachable_inv (n : Int) (hn : 0 ≤ n) (s : St) (h : Reachable step (init n) s) : Inv s :=
  inv_reachable step (init n) Inv (init_inv n hn) step_inv s h

end MythVerif.Wsq
