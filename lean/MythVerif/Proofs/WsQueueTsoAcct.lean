import MythVerif.Proofs.WsQueueTso
/-! Accounting on the TSO machine: every inserted element is in exactly one place. -/
namespace MythVerif.WsqTso
open MythVerif.Wsq

def acctList (s : St) : List Elem := s.A ++ (s.flT.toList ++ (s.flO.toList ++ s.retd))
def Acct (s : St) : Prop := (acctList s).Perm s.ins

theorem acct_same (s s' : St) (hA : s'.A = s.A) (hO : s'.flO = s.flO) (hT : s'.flT = s.flT)
    (hr : s'.retd = s.retd) (hi : s'.ins = s.ins) (h : Acct s) : Acct s' := by
  unfold Acct acctList at *; rw [hA, hO, hT, hr, hi]; exact h

theorem acct_snoc (s s' : St) (e : Elem) (hA : s'.A = s.A ++ [e]) (hO : s'.flO = s.flO) (hT : s'.flT = s.flT)
    (hr : s'.retd = s.retd) (hi : s'.ins = e :: s.ins) (h : Acct s) : Acct s' := by
  unfold Acct acctList at *; rw [hA, hO, hT, hr, hi]
  simp only [List.append_assoc, List.singleton_append]
  exact List.perm_middle.trans (List.Perm.cons e h)

theorem acct_cons (s s' : St) (e : Elem) (hA : s'.A = e :: s.A) (hO : s'.flO = s.flO) (hT : s'.flT = s.flT)
    (hr : s'.retd = s.retd) (hi : s'.ins = e :: s.ins) (h : Acct s) : Acct s' := by
  unfold Acct acctList at *; rw [hA, hO, hT, hr, hi]
  simp only [List.cons_append]
  exact List.Perm.cons e h

theorem acct_popLP (s s' : St) (x : Elem) (hl : s.A.getLast? = some x) (hA : s'.A = s.A.dropLast)
    (hO0 : s.flO = none) (hO : s'.flO = some x) (hT : s'.flT = s.flT)
    (hr : s'.retd = s.retd) (hi : s'.ins = s.ins) (h : Acct s) : Acct s' := by
  unfold Acct acctList at *; rw [hA, hO, hT, hr, hi]
  have hAx : s.A = s.A.dropLast ++ [x] := by
    rw [List.getLast?_eq_some_iff] at hl
    obtain ⟨ys, hy⟩ := hl
    rw [hy]; simp
  rw [hAx, hO0] at h
  simp only [Option.toList, List.append_assoc, List.singleton_append, List.nil_append] at *
  refine List.Perm.trans ?_ h
  apply List.Perm.append_left
  exact List.perm_middle

theorem acct_ownerRet (s s' : St) (r : Option Elem) (hA : s'.A = s.A) (hr0 : r = s.flO) (hO : s'.flO = none)
    (hT : s'.flT = s.flT) (hr : s'.retd = retOpt s.retd r) (hi : s'.ins = s.ins) (h : Acct s) : Acct s' := by
  unfold Acct acctList at *; rw [hA, hO, hT, hr, hi]
  subst hr0
  cases hf : s.flO with
  | none => simpa [retOpt, hf] using h
  | some x => simpa [retOpt, hf] using h

theorem acct_takeLP (s s' : St) (x : Elem) (A' : List Elem) (hl : s.A = x :: A') (hA : s'.A = A')
    (hT0 : s.flT = none) (hT : s'.flT = some x) (hO : s'.flO = s.flO)
    (hr : s'.retd = s.retd) (hi : s'.ins = s.ins) (h : Acct s) : Acct s' := by
  unfold Acct acctList at *; rw [hA, hO, hT, hr, hi]
  rw [hl, hT0] at h
  simp only [Option.toList, List.nil_append, List.cons_append] at *
  exact List.perm_middle.trans h

theorem acct_thiefRet (s s' : St) (r : Option Elem) (hA : s'.A = s.A) (hr0 : r = s.flT) (hT : s'.flT = none)
    (hO : s'.flO = s.flO) (hr : s'.retd = retOpt s.retd r) (hi : s'.ins = s.ins) (h : Acct s) : Acct s' := by
  unfold Acct acctList at *; rw [hA, hO, hT, hr, hi]
  subst hr0
  cases hf : s.flT with
  | none => simpa [retOpt, hf] using h
  | some x =>
    simp only [retOpt, hf, Option.toList, List.nil_append, List.singleton_append] at *
    refine List.Perm.trans ?_ h
    apply List.Perm.append_left
    exact List.perm_middle

theorem applySto_ghost (s : St) (st : Sto) (hst : ∀ v e, st ≠ .baseI v e) :
    (applySto s st).A = s.A ∧ (applySto s st).flO = s.flO ∧ (applySto s st).flT = s.flT ∧
    (applySto s st).retd = s.retd ∧ (applySto s st).ins = s.ins := by
  cases st <;> simp [applySto] at hst ⊢

theorem length_pos_getLast? (l : List Elem) (h : 0 < l.length) : ∃ x, l.getLast? = some x := by
  cases hl : l.getLast? with
  | some x => exact ⟨x, rfl⟩
  | none => rw [List.getLast?_eq_none_iff] at hl; subst hl; simp at h

theorem stepO_acct (s s' : St) (h : Inv s) (ha : Acct s) (hs : stepO s = some s') : Acct s' := by
  obtain ⟨_, _, _, hf, _, _⟩ := h.fences
  cases hpc : s.opc <;> simp only [stepO, hpc, releaseO, hf, if_true] at hs
  case pu2 e t => cases hs; exact acct_snoc s _ e rfl rfl rfl rfl rfl ha
  case po2 t | po4 t =>
    split at hs
    · split at hs <;> cases hs
      · rename_i x hx
        exact acct_popLP s _ x hx rfl (h.flOn (by rw [hpc]; rfl)) rfl rfl rfl rfl ha
      · exact acct_same s _ rfl rfl rfl rfl rfl ha
    · cases hs; exact acct_same s _ rfl rfl rfl rfl rfl ha
  case po3 t x =>
    cases hs
    have := h.po3 t x hpc
    refine acct_ownerRet s _ (viewPtr s.bufO s.ptr t) rfl ?_ rfl rfl rfl rfl ha
    rw [this.1, viewPtr_nil, this.2.2.2.1, this.2.2.2.2.2]
  case po6 r =>
    split at hs <;> cases hs
    exact acct_ownerRet s _ r rfl (h.po6 r hpc).1 rfl rfl rfl rfl ha
  -- every other step leaves `A`, the in-flight slots and the ghost lists alone
  all_goals
    repeat' split at hs
    all_goals cases hs
    all_goals first | exact ha | exact acct_same s _ rfl rfl rfl rfl rfl ha

theorem stepT_acct (s s' : St) (p : Pid) (h : Inv s) (ha : Acct s) (hs : stepT s p = some s') : Acct s' := by
  obtain ⟨_, _, _, hf, _, _⟩ := h.fences
  cases hpc : s.tpc p <;> simp only [stepT, hpc, releaseT, hf, if_true] at hs
  case tk2 b =>
    split at hs
    · split at hs <;> cases hs
      · rename_i x A' hA
        exact acct_takeLP s _ x A' hA rfl (h.flT_none hpc rfl rfl) rfl rfl rfl rfl ha
      · exact acct_same s _ rfl rfl rfl rfl rfl ha
    · cases hs; exact acct_same s _ rfl rfl rfl rfl rfl ha
  case tk4 r =>
    split at hs <;> cases hs
    exact acct_thiefRet s _ r rfl (h.tk4 p r hpc) rfl rfl rfl rfl ha
  case wk4u r =>
    split at hs <;> cases hs
    exact acct_thiefRet s _ r rfl (h.wk4u p r hpc).1 rfl rfl rfl rfl ha
  all_goals
    repeat' split at hs
    all_goals cases hs
    all_goals first | exact ha | exact acct_same s _ rfl rfl rfl rfl rfl ha

theorem stepD_acct (s s' : St) (p : Pid) (a : Bool) (h : Inv s) (ha : Acct s) (hs : stepD s p a = some s') :
    Acct s' := by
  simp only [stepD] at hs
  split at hs
  · rename_i b r hpc
    cases a
    · simp at hs; subst hs; exact acct_same s _ rfl rfl rfl rfl rfl ha
    · simp only [if_true] at hs
      split at hs
      · rename_i x A' hA
        simp at hs; subst hs
        exact acct_takeLP s _ x A' hA rfl (h.flT_none hpc rfl rfl) rfl rfl rfl rfl ha
      · simp at hs; subst hs; exact acct_same s _ rfl rfl rfl rfl rfl ha
  · simp at hs

theorem step_acct (s : St) (l : Lbl) (s' : St) (h : Inv s) (ha : Acct s) (hs : step s l = some s') : Acct s' := by
  cases l <;> simp only [step] at hs
  case o => exact stepO_acct s s' h ha hs
  case t p => exact stepT_acct s s' p h ha hs
  case tDecide p a => exact stepD_acct s s' p a h ha hs
  case flushO =>
    split at hs
    · rename_i st rest hb
      simp at hs; subst hs
      by_cases hst : ∃ v e, st = .baseI v e
      · obtain ⟨v, e, rfl⟩ := hst
        exact acct_cons s _ e rfl rfl rfl rfl rfl ha
      · obtain ⟨a1, a2, a3, a4, a5⟩ := applySto_ghost { s with bufO := rest } st (fun v e he => hst ⟨v, e, he⟩)
        exact acct_same s _ a1 a2 a3 a4 a5 ha
    · simp at hs
  case flushT p =>
    split at hs
    · rename_i st rest hb
      simp at hs; subst hs
      by_cases hst : ∃ v e, st = .baseI v e
      · obtain ⟨v, e, rfl⟩ := hst
        exact acct_cons s _ e rfl rfl rfl rfl rfl ha
      · obtain ⟨a1, a2, a3, a4, a5⟩ := applySto_ghost { s with bufT := upd s.bufT p rest } st (fun v e he => hst ⟨v, e, he⟩)
        exact acct_same s _ a1 a2 a3 a4 a5 ha
    · simp at hs
  all_goals (split at hs <;> simp at hs; subst hs; exact acct_same s _ rfl rfl rfl rfl rfl ha)

theorem reachable_inv_acct (n : Int) (s : St) (h : Reachable step (init FenceCfg.code n) s) : Inv s ∧ Acct s := by
  refine inv_reachable step (init FenceCfg.code n) (fun s => Inv s ∧ Acct s) ⟨init_inv n, ?_⟩ ?_ s h
  · simp [Acct, acctList, init]
  · intro s l s' ⟨hi, ha⟩ hs
    exact ⟨step_inv s l s' hi hs, step_acct s l s' hi ha hs⟩

theorem no_loss_no_dup (n : Int) (s : St) (h : Reachable step (init FenceCfg.code n) s) (hd : s.ins.Nodup) :
    s.retd.Nodup ∧ (s.A ++ (s.flT.toList ++ (s.flO.toList ++ s.retd))).Perm s.ins := by
  obtain ⟨_, ha⟩ := reachable_inv_acct n s h
  refine ⟨?_, ha⟩
  have := ha.nodup_iff.2 hd
  unfold acctList at this
  have h1 := (List.nodup_append.1 this).2.1
  have h2 := (List.nodup_append.1 h1).2.1
  exact (List.nodup_append.1 h2).2.1

/-- quiescent and drained: memory holds exactly the abstract deque in `[base, top)` -/
theorem quiescent_mem (s : St) (h : Inv s) (ho : s.opc = .idle) (ht : ∀ p, s.tpc p = .idle) (hb : s.bufO = []) :
    s.flO = none ∧ s.flT = none ∧ s.lock = .free ∧ s.base = s.lb ∧ s.top = s.lt ∧
    (∀ k : Nat, k < s.A.length → s.ptr (s.base + k) = s.A[k]?) ∧ (s.A.length : Int) = s.top - s.base := by
  have h1 : s.flO = none := h.flOn (by simp [ho, ownerFlight])
  have h2 : s.flT = none := by
    false_or_by_contra
    rename_i hne
    obtain ⟨q, _, hf⟩ := h.flTn hne
    rw [ht q] at hf; simp [thiefFlight] at hf
  have h3 : s.tr = false := by
    cases htr : s.tr with
    | false => rfl
    | true =>
      obtain ⟨q, hq⟩ := h.trn htr
      have := (h.lockT q).1 hq
      rw [ht q] at this; simp [thiefLocked] at this
  have h4 : s.lock = .free := by
    cases hl : s.lock with
    | free => rfl
    | owner => have := h.lockO.1 hl; rw [ho] at this; simp [ownerLocked] at this
    | thief q => have := (h.lockT q).1 hl; rw [ht q] at this; simp [thiefLocked] at this
  have h5 := h.lbase (by simp [ho, resetting])
  simp [h3] at h5
  have hc := h.carryC (by simp [ho, carry])
  have h6 : s.top = s.lt := by
    rcases hc with ⟨_, h⟩ | ⟨h, _⟩ | ⟨e, h, _⟩
    · exact h
    · rw [hb] at h; cases h
    · rw [hb] at h; cases h
  refine ⟨h1, h2, h4, h5, h6, ?_, ?_⟩
  · intro k hk
    rw [h5]
    exact h.mwin k hk (by have := h.len; omega)
  · have := h.len; omega

theorem owner_not_resetting (s : St) (h : Inv s) (p : Pid) (hl : s.lock = .thief p) : resetting s.opc = false :=
  thief_not_resetting s h p hl

/-- the fall-back branches of the three linearization points (taken when the ghost deque is empty)
    are unreachable: whenever the concrete test succeeds the abstract deque is non-empty -/
theorem ghost_branches_unreachable (s : St) (h : Inv s) :
    (∀ t, s.opc = .po2 t → viewBase s.bufO s.base + 1 < t → s.A.getLast? ≠ none) ∧
    (∀ t, s.opc = .po4 t → viewBase s.bufO s.base ≤ t → s.A.getLast? ≠ none) ∧
    (∀ p b, s.tpc p = .tk2 b → b < viewTop (s.bufT p) s.top → s.A ≠ []) ∧
    (∀ p b r, s.tpc p = .wkd b r → s.A ≠ []) := by
  have hlen := h.len
  refine ⟨?_, ?_, ?_, fun p b r hpc => (h.wkd p b r hpc).2.2.1⟩
  · intro t hpc hlt
    have e := h.po2 t hpc
    have e2 := h.lbase (by simp [hpc, resetting])
    rw [e.1, viewBase_nil] at hlt
    obtain ⟨x, hx⟩ := length_pos_getLast? s.A (by split at e2 <;> omega)
    simp [hx]
  · intro t hpc hlt
    have e := h.po4 t hpc
    have e2 := h.lbase (by simp [hpc, resetting])
    rw [e.1, viewBase_nil] at hlt
    obtain ⟨x, hx⟩ := length_pos_getLast? s.A (by split at e2 <;> omega)
    simp [hx]
  · intro p b hpc hlt hA
    have hb := h.tbufE p (by simp [hpc, mayBuf])
    rw [hb, viewTop_nil] at hlt
    have hl := (h.lockT p).2 (by simp [hpc, thiefLocked])
    have e1 := h.mtop (owner_not_resetting s h p hl)
    have e2 := h.tk2 p b hpc
    rw [hA] at hlen; simp at hlen
    omega

/-- a pending inserting `base` store of the owner belongs to put just before its unlock, targets the
    slot below the logical base as the owner sees it (`lb + sh`: `sh ≠ 0` only while the shift entry
    of a re-centring is still buffered in front of it), and the slot store it is ordered after
    (FIFO) carries the same element: when it drains, the slot it exposes holds the element inserted -/
theorem owner_baseI (s : St) (h : Inv s) (v : Int) (e : Elem) (hm : Sto.baseI v e ∈ s.bufO) :
    s.opc = .pt9 ∧ s.lock = .owner ∧ v = s.lb + s.sh - 1 ∧ viewPtr s.bufO s.ptr v = some e := by
  cases hpc : s.opc
  case pt9 =>
    have hl := h.lockO.2 (by simp [hpc, ownerLocked])
    rcases h.pt9 hpc with ⟨e', hp⟩ | ⟨hsh, _, _, hI⟩
    · rcases hp with h1 | ⟨h1, h2⟩ | ⟨h1, h2, h3⟩
      all_goals (rw [h1] at hm ⊢; simp at hm; obtain ⟨rfl, rfl⟩ := hm; simp [viewPtr, hl])
    · rw [hsh]; simp only [Int.add_zero]
      rcases hI with ⟨e', h1⟩ | ⟨e', h1, h2⟩ | h1
      · rw [h1] at hm ⊢; simp at hm; obtain ⟨rfl, rfl⟩ := hm; simp [viewPtr, hl]
      · rw [h1] at hm ⊢; simp at hm; obtain ⟨rfl, rfl⟩ := hm; simp [viewPtr, hl, h2]
      · rw [h1] at hm; simp at hm
  -- elsewhere the owner's clause lists the possible buffers, none with such a store
  all_goals
    exfalso
    have ho := h.ownerAt
    rw [hpc] at ho
    simp only [OwnerAt, CarryShape, Pu2Shape, PofShape, Po5cShape, Po6Shape, Po8Shape, Po9Shape, Rc1Shape, Rc2Shape,
      RcPre, RcShape, Cl2Shape, Cl3Shape] at ho
    grind

/-- the same for a passer: its pending inserting `base` store belongs to trypass just before its unlock -/
theorem thief_baseI (s : St) (h : Inv s) (p : Pid) (v : Int) (e : Elem) (hm : Sto.baseI v e ∈ s.bufT p) :
    (∃ ok, s.tpc p = .tp4 ok) ∧ s.lock = .thief p ∧ v = s.lb - 1 ∧ viewPtr (s.bufT p) s.ptr v = some e := by
  cases hb : s.bufT p with
  | nil => rw [hb] at hm; simp at hm
  | cons st rest =>
    obtain ⟨hl, hcase⟩ := thief_buf_shape s h p st rest hb
    rw [hb] at hm
    rcases hcase with ⟨b, _, rfl, rfl, _⟩ | ⟨_, rfl, rfl, _⟩ | ⟨e', _, rfl, rfl⟩ |
      ⟨e', ok, hpc, rfl, rfl⟩ | ⟨e', ok, hpc, rfl, rfl, hp⟩ | ⟨x, rfl, hc⟩
    · simp at hm
    · simp at hm
    · simp at hm
    · simp at hm; obtain ⟨rfl, rfl⟩ := hm; exact ⟨⟨ok, hpc⟩, hl, rfl, by simp [viewPtr]⟩
    · simp at hm; obtain ⟨rfl, rfl⟩ := hm; exact ⟨⟨ok, hpc⟩, hl, rfl, by simp [viewPtr, hp]⟩
    · rcases hc with ⟨r, _, rfl⟩ | ⟨b, _, rfl⟩ | ⟨_, rfl, _⟩ <;> simp at hm

/-- the overflow tests of put and trypass (`base == 0`) read the logical base -/
theorem base_tests_logical (s : St) (h : Inv s) :
    (∀ e, s.opc = .pt1 e → viewBase s.bufO s.base = s.lb) ∧
    (∀ p e, s.tpc p = .tp1 e → viewBase (s.bufT p) s.base = s.lb) := by
  refine ⟨?_, ?_⟩
  · intro e hpc
    rw [(h.pt1 e hpc).1, viewBase_nil]; exact ((h.owner_view hpc rfl).2.2 rfl).2.2
  · intro p e hpc
    obtain ⟨_, hb, _, htr⟩ := h.locked_view hpc rfl
    rw [h.tbufE p (by rw [hpc]; rfl), viewBase_nil, hb, htr rfl]; simp

/-- the two `abort()`s ("Runqueue overflow") are reached only on a full deque, holding the lock with
    an empty buffer -/
theorem stuck_only_when_full (s : St) (h : Inv s) (hpc : s.opc = .stuck ∨ s.opc = .stuckL) :
    (s.A.length : Int) = s.size ∧ s.lb = 0 ∧ s.lt = s.size ∧ s.top = s.size ∧ s.base = 0 ∧
    s.lock = .owner ∧ s.bufO = [] := by
  rcases hpc with hpc | hpc
  · obtain ⟨h1, h2, h3, h4⟩ := h.stuck hpc
    obtain ⟨_, hlen, hv⟩ := h.owner_view hpc rfl
    obtain ⟨_, _, hb⟩ := hv rfl
    exact ⟨by omega, h4, h3, by omega, by omega, h.lockO.2 (by rw [hpc]; rfl), h1⟩
  · obtain ⟨h1, h2, h3, h4⟩ := h.stuckL hpc
    obtain ⟨_, hlen, hv⟩ := h.owner_view hpc rfl
    obtain ⟨_, _, hb⟩ := hv rfl
    exact ⟨by omega, h3, h4, by omega, by omega, h.lockO.2 (by rw [hpc]; rfl), h1⟩

/-- the overflow tests of the two re-centring paths read the logical values: push's `base == 0` at
    logical top `size`, put's `top == size` at logical base 0 -/
theorem overflow_tests_logical (s : St) (h : Inv s) :
    (∀ e, s.opc = .pub e → viewBase s.bufO s.base = s.lb ∧ s.lt = s.size) ∧
    (∀ e, s.opc = .pt2 e → viewTop s.bufO s.top = s.lt ∧ s.lb = 0) := by
  refine ⟨?_, ?_⟩
  · intro e hpc
    obtain ⟨h1, h2, h3⟩ := h.pub e hpc
    rw [h1, viewBase_nil]; exact ⟨((h.owner_view hpc rfl).2.2 rfl).2.2, h3⟩
  · intro e hpc
    obtain ⟨h1, h2, h3⟩ := h.pt2 e hpc
    rw [h1, viewTop_nil]; exact ⟨h2, h3⟩

/-- clear's assertion `top == base` holds exactly when the deque is empty (it reads the logical values) -/
theorem cl1_assert_iff (s : St) (h : Inv s) (hpc : s.opc = .cl1) :
    (viewTop s.bufO s.top = viewBase s.bufO s.base ↔ s.A = []) ∧
    viewTop s.bufO s.top = s.lt ∧ viewBase s.bufO s.base = s.lb := by
  obtain ⟨h1, h2⟩ := h.cl1 hpc
  have hl := h.lockO.2 (by simp [hpc, ownerLocked])
  have htr : s.tr = false := by
    cases ht : s.tr with
    | false => rfl
    | true => obtain ⟨q, hq⟩ := h.trn ht; rw [hl] at hq; cases hq
  have hb := h.lbase (by simp [hpc, resetting])
  simp [htr] at hb
  have hlen := h.len
  rw [h1, viewTop_nil, viewBase_nil]
  refine ⟨⟨fun he => ?_, fun hA => ?_⟩, h2, hb⟩
  · have : s.A.length = 0 := by omega
    exact List.eq_nil_of_length_eq_zero this
  · rw [hA] at hlen; simp at hlen; omega

/-- **a declined steal leaves the candidate available** (TSO analogue of `decline_spec`): while the
    decision callback of `myth_wsapi_runqueue_take` is asked, the candidate is the head of the deque;
    if it declines, then after the roll-back store of `base`, its drain and the unlock, the deque,
    the slots, `top`, and the returned / inserted lists are exactly as before, `base` is back at the
    logical base, the lock is free and the participant's buffer is empty -/
theorem decline_spec (s : St) (h : Inv s) (p : Pid) (b : Int) (r : Option Elem) (hpc : s.tpc p = .wkd b r) :
    r = s.A.head? ∧ s.A ≠ [] ∧
    ∃ s1 s2 s3 s4, step s (.tDecide p false) = some s1 ∧ step s1 (.t p) = some s2 ∧
      step s2 (.flushT p) = some s3 ∧ step s3 (.t p) = some s4 ∧
      s4.A = s.A ∧ s4.retd = s.retd ∧ s4.ins = s.ins ∧ s4.ptr = s.ptr ∧ s4.top = s.top ∧
      s4.base = s4.lb ∧ s4.lb = s.lb ∧ s4.lock = .free ∧ s4.tpc p = .idle ∧ s4.bufT p = [] := by
  obtain ⟨hlb, htr, hne, hr, _⟩ := h.wkd p b r hpc
  have hbuf := h.tbufE p (by simp [hpc, mayBuf])
  have hcfg := h.cfg
  refine ⟨hr, hne, ?_⟩
  let s1 : St := { s with tpc := upd s.tpc p (.wk5 b) }
  let s2 : St := { s1 with bufT := upd s1.bufT p [.base b], tpc := upd s1.tpc p .wk6 }
  let s3 : St := { s2 with bufT := upd s2.bufT p [], base := b, tr := decide (b = s.lb + 1) }
  let s4 : St := { s3 with lock := .free, tpc := upd s3.tpc p .idle }
  refine ⟨s1, s2, s3, s4, ?_, ?_, ?_, ?_, ?_⟩
  · simp [step, stepD, hpc, s1]
  · simp [step, stepT, s1, s2, hbuf]
  · simp [step, s2, s1, applySto, s3]
  · simp [step, stepT, s3, s2, s1, releaseT, hcfg, s4]
  · simp [s1, s2, s3, s4, hlb]

end MythVerif.WsqTso
