import MythVerif.Model.PiDag
/-! Arrays read with `[·]!` after `modify` / `set!` / `push`, and sums `rsum n f = f 0 + … + f (n-1)`,
`isum lo len f = f lo + … + f (lo+len-1)`: the vocabulary in which the loops of the DAG code are
specified. -/
namespace MythVerif.PiDag

/-! ### reading an updated array -/

theorem modify_get! {α} [Inhabited α] (a : Array α) (i j : Nat) (f : α → α) :
    (a.modify i f)[j]! = if i = j ∧ i < a.size then f a[j]! else a[j]! := by
  simp only [getElem!_def, Array.getElem?_modify]
  by_cases hj : j < a.size <;> by_cases h : i = j <;> simp [h, hj]

theorem modify_get_ne (T : Array PNode) (i j : Nat) (f : PNode → PNode) (h : i ≠ j) :
    (T.modify i f)[j]! = T[j]! := by
  rw [modify_get!, if_neg (fun hh => h hh.1)]

theorem modify_info (T : Array PNode) (i j : Nat) (f : PNode → PNode) (hf : ∀ x, (f x).info = x.info) :
    (T.modify i f)[j]!.info = T[j]!.info := by
  rw [modify_get!]; split
  · exact hf _
  · rfl

theorem setIfInBounds_get! {α} [Inhabited α] (a : Array α) (i j : Nat) (x : α) :
    (a.setIfInBounds i x)[j]! = if i = j ∧ i < a.size then x else a[j]! := by
  simp only [getElem!_def, Array.getElem?_setIfInBounds]
  by_cases hj : j < a.size <;> by_cases h : i = j <;> simp [h, hj]

theorem set!_get!_ne {α} [Inhabited α] (a : Array α) (i j : Nat) (x : α) (h : i ≠ j) :
    (a.set! i x)[j]! = a[j]! := by
  show (a.setIfInBounds i x)[j]! = a[j]!
  rw [setIfInBounds_get!]; simp [h]

theorem set!_get!_eq {α} [Inhabited α] (a : Array α) (i : Nat) (x : α) (h : i < a.size) :
    (a.set! i x)[i]! = x := by
  show (a.setIfInBounds i x)[i]! = x
  rw [setIfInBounds_get!]; simp [h]

theorem set!_size {α} (a : Array α) (i : Nat) (x : α) : (a.set! i x).size = a.size := by
  show (a.setIfInBounds i x).size = a.size
  simp

theorem push_get_lt {α} [Inhabited α] (T : Array α) (x : α) (j : Nat) (h : j < T.size) :
    (T.push x)[j]! = T[j]! := by
  simp [getElem!_def, Array.getElem?_push, h, Nat.ne_of_lt h]

theorem push_get_eq {α} [Inhabited α] (T : Array α) (x : α) : (T.push x)[T.size]! = x := by
  simp

theorem replicate_get! (n v : Nat) : (Array.replicate n (0 : Nat))[v]! = 0 := by
  by_cases h : v < n <;> simp [h]

theorem countP_eraseIdx {α} (p : α → Bool) : ∀ (l : List α) (k : Nat) (h : k < l.length),
    l.countP p = (l.eraseIdx k).countP p + (if p l[k] then 1 else 0)
  | [], k, h => by simp at h
  | a :: l, 0, _ => by simp [List.countP_cons]
  | a :: l, k + 1, h => by
    have := countP_eraseIdx p l k (by simpa using h)
    simp only [List.eraseIdx_cons_succ, List.countP_cons, List.getElem_cons_succ, this]
    omega

theorem foldl_range_inv {α} (P : Nat → α → Prop) (f : α → Nat → α) (init : α) (h0 : P 0 init) :
    ∀ n, (∀ k a, k < n → P k a → P (k + 1) (f a k)) → P n ((List.range n).foldl f init) := by
  intro n
  induction n with
  | zero => intro _; exact h0
  | succ n ih =>
    intro hs
    rw [List.range_succ, List.foldl_append]
    exact hs n _ (Nat.lt_succ_self n) (ih fun k a hk => hs k a (by omega))

/-! ### sums over an initial segment -/

def rsum (n : Nat) (f : Nat → Nat) : Nat := ((List.range n).map f).sum

theorem rsum_succ (n : Nat) (f : Nat → Nat) : rsum (n + 1) f = rsum n f + f n := by
  simp [rsum, List.range_succ, List.map_append, List.sum_append]

theorem rsum_congr (n : Nat) (f g : Nat → Nat) (h : ∀ x < n, f x = g x) : rsum n f = rsum n g := by
  induction n with
  | zero => rfl
  | succ n ih => rw [rsum_succ, rsum_succ, ih (fun x hx => h x (by omega)), h n (by omega)]

theorem rsum_update (n u : Nat) (hu : u < n) (f g : Nat → Nat) (h : ∀ x < n, x ≠ u → g x = f x) :
    rsum n g + f u = rsum n f + g u := by
  induction n with
  | zero => omega
  | succ n ih =>
    rw [rsum_succ, rsum_succ]
    by_cases hn : u = n
    · subst hn
      have := rsum_congr u g f (fun x hx => h x (by omega) (by omega))
      omega
    · have := ih (by omega) (fun x hx hxu => h x (by omega) hxu)
      have := h n (by omega) (fun e => hn e.symm)
      omega

theorem rsum_mono (f : Nat → Nat) (i n : Nat) (h : i ≤ n) : rsum i f ≤ rsum n f := by
  induction n with
  | zero => rw [Nat.le_zero.mp h]; exact Nat.le_refl _
  | succ n ih =>
    by_cases hi : i = n + 1
    · subst hi; exact Nat.le_refl _
    · rw [rsum_succ]; have := ih (by omega); omega

theorem rsum_term_le (n u : Nat) (hu : u < n) (f : Nat → Nat) : f u ≤ rsum n f := by
  have := rsum_mono f (u + 1) n hu
  rw [rsum_succ] at this; omega

theorem rsum_eq_zero (n : Nat) (f : Nat → Nat) (h : ∀ u < n, f u = 0) : rsum n f = 0 := by
  induction n with
  | zero => rfl
  | succ n ih => rw [rsum_succ, ih (fun u hu => h u (by omega)), h n (by omega)]

theorem rsum_pos_ex (f : Nat → Nat) (n : Nat) (h : rsum n f ≠ 0) : ∃ g, g < n ∧ f g ≠ 0 :=
  Classical.byContradiction fun hn =>
    h (rsum_eq_zero n f fun u hu => Classical.byContradiction fun h0 => hn ⟨u, hu, h0⟩)

theorem rsum_le (n : Nat) (f : Nat → Nat) (h : ∀ u < n, f u ≤ 1) : rsum n f ≤ n := by
  induction n with
  | zero => simp [rsum]
  | succ n ih =>
    rw [rsum_succ]
    have := ih (fun u hu => h u (by omega)); have := h n (by omega); omega

theorem foldl_add_rsum (h : Nat → Nat) : ∀ (n a : Nat), (List.range n).foldl (fun acc i => acc + h i) a = a + rsum n h := by
  intro n
  induction n with
  | zero => intro a; simp [rsum]
  | succ n ih => intro a; rw [List.range_succ, List.foldl_append, ih, rsum_succ]; simp [Nat.add_assoc]

/-! ### sums over an interval -/

def isum (lo len : Nat) (f : Nat → Nat) : Nat := rsum len (fun i => f (lo + i))

theorem isum_zero (lo : Nat) (f : Nat → Nat) : isum lo 0 f = 0 := rfl

theorem isum_succ (lo len : Nat) (f : Nat → Nat) : isum lo (len + 1) f = isum lo len f + f (lo + len) := by
  simp [isum, rsum_succ]

theorem isum_add (lo a b : Nat) (f : Nat → Nat) : isum lo (a + b) f = isum lo a f + isum (lo + a) b f := by
  induction b with
  | zero => simp [isum_zero]
  | succ b ih => rw [← Nat.add_assoc, isum_succ, isum_succ, ih]; simp [Nat.add_assoc]

theorem isum_succ_left (lo len : Nat) (f : Nat → Nat) : isum lo (len + 1) f = f lo + isum (lo + 1) len f := by
  rw [Nat.add_comm len 1, isum_add]
  simp [isum, rsum]

theorem isum_congr (lo len : Nat) (f g : Nat → Nat) (h : ∀ x, lo ≤ x → x < lo + len → f x = g x) :
    isum lo len f = isum lo len g :=
  rsum_congr _ _ _ (fun x hx => h _ (by omega) (by omega))

theorem rsum_eq_isum (n : Nat) (f : Nat → Nat) : rsum n f = isum 0 n f := by simp [isum]

/-- a loop that bumps the counter `key x` for every `x` of a list -/
theorem foldl_modify_inc {β} (key : β → Nat) : ∀ (L : List β) (a : Array Nat),
    (L.foldl (fun c x => c.modify (key x) (· + 1)) a).size = a.size ∧
    ∀ v, v < a.size →
      (L.foldl (fun c x => c.modify (key x) (· + 1)) a)[v]! = a[v]! + L.countP (fun x => decide (key x = v))
  | [], a => ⟨rfl, fun v _ => by simp⟩
  | x :: L, a => by
    have ih := foldl_modify_inc key L (a.modify (key x) (· + 1))
    simp only [Array.size_modify] at ih
    refine ⟨ih.1, fun v hv => ?_⟩
    rw [List.foldl_cons, ih.2 v hv, modify_get!, List.countP_cons]
    by_cases h : key x = v
    · subst h; simp [hv]; omega
    · simp [h]

/-- sum of `1` over the slots of `[lo, lo+len)` that equal `j` -/
theorem isum_ind (lo len j : Nat) :
    isum lo len (fun i => if i = j then 1 else 0) = if lo ≤ j ∧ j < lo + len then 1 else 0 := by
  induction len with
  | zero => simp [isum_zero]
  | succ len ih =>
    rw [isum_succ, ih]
    by_cases h1 : lo + len = j
    · subst h1; simp
    · simp only [h1, if_false]
      by_cases h2 : lo ≤ j ∧ j < lo + len
      · rw [if_pos h2, if_pos (by omega)]
      · rw [if_neg h2, if_neg (by omega)]

theorem countP_range_isum (lo m : Nat) (q : Nat → Bool) :
    (List.range m).countP (fun j => q (lo + j)) = isum lo m (fun x => if q x then 1 else 0) := by
  induction m with
  | zero => rfl
  | succ m ih =>
    rw [List.range_succ, List.countP_append, ih, isum_succ]
    simp [List.countP_cons]

/-- a loop that bumps the counters of the slots `lo, …, lo+m-1` -/
theorem rangeMod_spec (lo m : Nat) (c : Array Nat) :
    ((List.range m).foldl (fun c k => c.modify (lo + k) (· + 1)) c).size = c.size ∧
    ∀ j, j < c.size → ((List.range m).foldl (fun c k => c.modify (lo + k) (· + 1)) c)[j]! =
      c[j]! + (if lo ≤ j ∧ j < lo + m then 1 else 0) := by
  have h := foldl_modify_inc (fun k => lo + k) (List.range m) c
  refine ⟨h.1, fun j hj => ?_⟩
  rw [h.2 j hj, countP_range_isum lo m (fun x => decide (x = j))]
  simp only [decide_eq_true_eq, isum_ind]

/-- a loop that overwrites the slots `lo, …, lo+m-1` -/
theorem rangeSet_spec (lo : Nat) (mark : Int) : ∀ (m : Nat) (c : Array Int),
    ((List.range m).foldl (fun c k => c.set! (lo + k) mark) c).size = c.size ∧
    ∀ j, j < c.size → ((List.range m).foldl (fun c k => c.set! (lo + k) mark) c)[j]! =
      if lo ≤ j ∧ j < lo + m then mark else c[j]! := by
  intro m
  induction m with
  | zero => intro c; exact ⟨rfl, fun j _ => by rw [if_neg (by omega)]; rfl⟩
  | succ m ih =>
    intro c
    rw [List.range_succ, List.foldl_append]
    simp only [List.foldl_cons, List.foldl_nil]
    refine ⟨by rw [set!_size, (ih c).1], fun j hj => ?_⟩
    by_cases h1 : lo + m = j
    · subst h1
      rw [set!_get!_eq _ _ _ (by rw [(ih c).1]; exact hj), if_pos (by omega)]
    · rw [set!_get!_ne _ _ _ _ h1, (ih c).2 j hj]
      by_cases h2 : lo ≤ j ∧ j < lo + m
      · rw [if_pos h2, if_pos (by omega)]
      · rw [if_neg h2, if_neg (by omega)]

end MythVerif.PiDag
