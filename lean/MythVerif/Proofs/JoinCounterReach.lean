import MythVerif.Proofs.JoinCounter
/-! Join counter: the invariant in every reachable state, and the `N = 0` helper. -/
namespace MythVerif.JoinCounter
open MythVerif MythVerif.JcArith

/-- the invariant holds in every reachable state (any N ≥ 0, any threads, any interleaving) -/
theorem reach_inv (N : Nat) (s : St) (h : Reachable (step N) init s) : Inv N s :=
  inv_reachable (step N) init (Inv N) (inv_init N) (fun s l s' => inv_step N s s' l) s h

theorem ldr_none_of (N : Nat) (s : St) (hi : Inv N s) (hl : ∀ t, ldrPc (s.pc t) = false) : s.ldr = none := by
  cases hld : s.ldr with
  | none => rfl
  | some l => have := (hi.ldrI l).mpr hld; rw [hl l] at this; cases this

/-- program counters possible when `N = 0` -/
def n0Pc : PC → Bool
  | .idle | .dexit => true
  | _ => false

theorem n0_upd (pc : Tid → PC) (t : Tid) (x : PC) (h1 : ∀ u, n0Pc (pc u) = true) (hx : n0Pc x = true) :
    ∀ u, n0Pc (upd pc t x u) = true := by
  intro u; simp only [upd_apply]; split
  · exact hx
  · exact h1 u

theorem n0_step (s s' : St) (l : Lbl) (h1 : (∀ t, n0Pc (s.pc t) = true) ∧ s.state = 0 ∧ s.q = [])
    (hs : step 0 s l = some s') : (∀ t, n0Pc (s'.pc t) = true) ∧ s'.state = 0 ∧ s'.q = [] := by
  obtain ⟨hp, hst, hq⟩ := h1
  have hd : ∀ v, decsOf 0 v = 0 := n0_case.2.2.1
  have ha := hp l.actor
  cases l
  case waitRead t v =>
    simp only [step, hd] at hs
    split at hs
    · split at hs
      · simp at hs; subst hs; exact ⟨n0_upd _ _ _ hp (by simp [n0Pc]), hst, hq⟩
      · split at hs
        · simp at hs; subst hs; exact ⟨n0_upd _ _ _ hp (by simp [n0Pc]), hst, hq⟩
        · simp at hs
    · simp at hs
  case decRead t v =>
    simp only [step, hd] at hs
    split at hs
    · simp at hs; subst hs; exact ⟨n0_upd _ _ _ hp (by simp [n0Pc]), hst, hq⟩
    · simp at hs
  -- every other label needs a program counter that is never reached
  all_goals
    simp only [step] at hs
    split at hs
    · rename_i hpc; simp [Lbl.actor, hpc, n0Pc] at ha
    · cases hs

theorem n0_reach (s : St) (h : Reachable (step 0) init s) :
    (∀ t, n0Pc (s.pc t) = true) ∧ s.state = 0 ∧ s.q = [] :=
  inv_reachable (step 0) init (fun s => (∀ t, n0Pc (s.pc t) = true) ∧ s.state = 0 ∧ s.q = [])
    ⟨by intro t; simp [init, n0Pc], rfl, rfl⟩ (fun s l s' hi hs => n0_step s s' l hi hs) s h

end MythVerif.JoinCounter
