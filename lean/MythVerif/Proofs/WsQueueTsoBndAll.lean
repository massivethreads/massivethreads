import MythVerif.Proofs.WsQueueTsoBnd
/-! `Bnd` is inductive relative to `Inv`: program steps of the owner and of the other participants,
    the decision callback, operation calls, buffer drains; the bounds hold in every reachable state
    of a machine of capacity `0 ≤ n`, and with them the `abort()`s are reached exactly on a full deque.

    A program step is treated once for all program counters: the step function is unfolded into
    its branches, `Bnd` of the new state is assembled from its three parts, and what is left is
    linear arithmetic over the old clause of the moving participant and `OwnerKnows` /
    `ThiefKnows` of the old and the new state. -/
namespace MythVerif.WsqTso
open MythVerif.Wsq
open Bnd

theorem bnd_stepO (s s' : St) : Inv s → Inv s' → Bnd s → stepO s = some s' → Bnd s' := by
  intro h h' hb hs
  have hg := hb.glob
  have ho := hb.ownerAt
  have ht := hb.thiefAt
  have hk := h.ownerKnows
  have hk' := h'.ownerKnows
  have hcfg := h.cfg
  have hoff := rcOff_bnd (viewBase s.bufO s.base)
  simp only [Bnd.Glob] at hg
  cases hpc : s.opc
  all_goals
    simp only [stepO, hpc, releaseO, fenceOk, hcfg, code_unlockFence, code_pushRb, code_popFence, if_true] at hs
  all_goals repeat' split at hs
  all_goals simp only [Option.map_some, Option.map_none, Option.some.injEq, reduceCtorEq] at hs
  all_goals subst hs
  all_goals simp only [hpc, Bnd.OwnerAt, OwnerKnows] at ho hk hk'
  all_goals
    refine .of_parts (by simp only [Bnd.Glob]; omega) (by simp only [hpc, Bnd.OwnerAt] <;> omega) ?_
    -- an owner step writes nothing the other participants' clauses read, except `lb` when `po7` / `cl1`
    -- re-centre the empty window: then it holds the lock
    first
    | exact ht
    | exact fun p => (ht p).of_unlocked (h.glob.thieves_unlocked (by rw [hpc]; rfl) p)

theorem bnd_stepT (s s' : St) (p : Pid) : Inv s → Inv s' → Bnd s → stepT s p = some s' → Bnd s' := by
  intro h h' hb hs
  have hg := hb.glob
  have ho := hb.ownerAt
  have ht := hb.thiefAt
  have htp := ht p
  have hk := h.thiefKnows p
  have hk' := h'.thiefKnows p
  have hcfg := h.cfg
  have hu : thiefLocked (s.tpc p) = true → ownerLocked s.opc = false :=
    fun hl => h.glob.owner_unlocked ((h.lockT p).2 hl)
  simp only [Bnd.Glob] at hg
  cases hpc : s.tpc p
  all_goals
    simp only [stepT, hpc, releaseT, fenceOk, hcfg, code_unlockFence, code_takeFence, code_wtakeFence,
      code_wpeekFence, if_true] at hs
  all_goals repeat' split at hs
  all_goals simp only [Option.map_some, Option.map_none, Option.some.injEq, reduceCtorEq] at hs
  all_goals subst hs
  all_goals simp only [hpc, Bnd.ThiefAt, ThiefKnows, upd_same] at htp hk hk'
  all_goals
    first
    | exact hb    -- spinning on a taken lock
    | refine .of_parts (by simp only [Bnd.Glob]; omega) ?_
        (ThiefAt.move p ht (by dsimp only; omega) (fun q hq => by simp only [upd_apply, if_neg hq]) (fun q hq => upd_other _ _ _ _ hq) ?_)
      -- the owner's clause reads nothing a participant writes, except `lb` at the linearization
      -- point of take (`tk2`): there the participant holds the lock
      · first | exact ho | exact ho.of_unlocked (hu (by rw [hpc]; rfl))
      -- `tp1` on `base == 0`: the clause of `tp4` is about a buffered insertion, and nothing is buffered
      · simp only [upd_same, Bnd.ThiefAt] <;> first | omega | exact fun hne => absurd hk.2 hne

/-- the decision callback: accepting is the linearization point of the wsapi take -/
theorem bnd_stepD (s s' : St) (p : Pid) (a : Bool) : Inv s → Bnd s → stepD s p a = some s' → Bnd s' := by
  intro h hb hs
  have hg := hb.glob
  simp only [Bnd.Glob] at hg
  simp only [stepD] at hs
  split at hs
  · rename_i b r hpc
    have hu := h.glob.owner_unlocked ((h.lockT p).2 (by rw [hpc]; rfl))
    repeat' split at hs
    all_goals
      simp only [Option.some.injEq] at hs
      subst hs
      exact .of_parts (by simp only [Bnd.Glob]; omega) (hb.ownerAt.of_unlocked hu)
        (ThiefAt.move p hb.thiefAt (by dsimp only; omega) (fun _ _ => rfl) (fun q hq => upd_other _ _ _ _ hq)
          (by simp only [upd_same, Bnd.ThiefAt]))
  · cases hs

/-- the head of the owner's buffer is an inserting `base` store: no shift is pending, it is the only entry -/
theorem baseI_head (s : St) (h : Inv s) (v : Int) (e : Elem) (rest : List Sto) (hb : s.bufO = .baseI v e :: rest) :
    s.opc = .pt9 ∧ s.sh = 0 ∧ rest = [] ∧ v = s.lb + s.sh - 1 := by
  obtain ⟨hpc, _, hv, _⟩ := owner_baseI s h v e (by simp [hb])
  have := h.pt9 hpc
  simp only [RcPre, InsShape, hb] at this
  refine ⟨hpc, ?_, ?_, hv⟩ <;> grind

/-- on the reset path a `top` / `base` store at the head of the owner's buffer carries the logical value (a
    shift entry in front of it has drained) or the centre `size / 2` -/
theorem reset_head (s : St) (h : Inv s) (hr : resetting s.opc = true) (st : Sto) (rest : List Sto)
    (hbuf : s.bufO = st :: rest) :
    (∀ v, st = .top v → v = s.lt ∨ v = s.size / 2) ∧ (∀ v, st = .base v → v = s.lb ∨ v = s.size / 2) := by
  cases hpc : s.opc <;> simp only [hpc, resetting, reduceCtorEq] at hr
  case pus e off => have := h.pus e off hpc; grind [Rc1Shape]
  case puv e off => have := h.puv e off hpc; grind [Rc2Shape]
  case pux e t => have := h.pux e t hpc; grind [RcShape, RcPre]
  case pt4 e off => have := h.pt4 e off hpc; grind [Rc1Shape]
  case pt5 e off => have := h.pt5 e off hpc; grind [Rc2Shape]
  case pt6 e => have := h.pt6 e hpc; grind [RcShape, RcPre]
  case pt7 e b => have := h.pt7 e b hpc; grind [RcShape, RcPre]
  case pt8 e b => have := h.pt8 e b hpc; grind [RcPre, Pu2Shape]
  case pt9 => have := h.pt9 hpc; grind [RcPre, InsShape]
  case po8 => have := h.po8 hpc; grind [Po8Shape]
  case po9 => have := h.po9 hpc; grind [Po9Shape]
  case cl2 => have := h.cl2 hpc; grind [Cl2Shape]
  case cl3 => have := h.cl3 hpc; grind [Cl3Shape]

/-- the drain of an owner's store.  The memory values stay in range: off the reset path by `mtop` / `lbase`
    of the new state, on it by `reset_head`. -/
theorem bnd_flushO (s s' : St) : Inv s → Inv s' → Bnd s → step s .flushO = some s' → Bnd s' := by
  intro h h' hb hs
  have hg := hb.glob
  have ho := hb.ownerAt
  have ht := hb.thiefAt
  simp only [Bnd.Glob] at hg
  simp only [step] at hs
  split at hs
  · rename_i st rest hbuf
    simp only [Option.some.injEq] at hs; subst hs
    have hne : s.bufO ≠ [] := by rw [hbuf]; exact List.cons_ne_nil _ _
    have hrest : rest ≠ [] → s.bufO ≠ [] := fun _ => hne
    have hreset := fun hr => reset_head s h hr st rest hbuf
    cases st
    case top v =>
      have hv : v ≤ s.size := by
        cases hr : resetting s.opc
        · exact Int.le_trans (h'.mtop hr) hg.2.2.1
        · have := (hreset hr).1 v rfl; omega
      exact .of_parts (by simp only [applySto, Bnd.Glob]; omega) (ho.of_buf hrest) ht
    case base v =>
      have hv : 0 ≤ v := by
        cases hr : resetting s.opc
        · have : v = s.lb + _ := h'.lbase hr
          split at this <;> omega
        · have := (hreset hr).2 v rfl; omega
      exact .of_parts (by simp only [applySto, Bnd.Glob]; omega) (ho.of_buf hrest) ht
    case baseI v e =>
      -- the linearization point of put; the owner holds the lock
      obtain ⟨hpc, hsh, rfl, hv⟩ := baseI_head s h v e rest hbuf
      have hu := h.glob.thieves_unlocked (by rw [hpc]; rfl)
      have hpos : 0 < s.lb + s.sh := by rw [hpc] at ho; exact ho hne
      exact .of_parts (by simp only [applySto, Bnd.Glob]; omega)
        (by simp only [applySto, hpc]; exact fun hn => absurd rfl hn) fun p => (ht p).of_unlocked (hu p)
    case shift lo hi off =>
      obtain ⟨rfl, rfl, rfl, hr⟩ := shift_head s h lo hi off rest hbuf
      have hu := h.glob.thieves_unlocked (resetting_locked _ hr)
      exact .of_parts (by simp only [applySto, Bnd.Glob]; omega) (ho.drain_shift hr hne)
        fun p => (ht p).of_unlocked (hu p)
    all_goals exact .of_parts hg (ho.of_buf hrest) ht
  · cases hs

/-- the drain of a store of participant `p`, who then holds the lock -/
theorem bnd_flushT (s s' : St) (p : Pid) : Inv s → Bnd s → step s (.flushT p) = some s' → Bnd s' := by
  intro h hb hs
  have hg := hb.glob
  have ho := hb.ownerAt
  have ht := hb.thiefAt
  simp only [Bnd.Glob] at hg
  simp only [step] at hs
  split at hs
  · rename_i st rest hbuf
    obtain ⟨hl, hcase⟩ := thief_buf_shape s h p st rest hbuf
    simp only [Option.some.injEq] at hs; subst hs
    have hne : s.bufT p ≠ [] := by rw [hbuf]; exact List.cons_ne_nil _ _
    rcases hcase with ⟨b, hpc, rfl, rfl, hlb, htr⟩ | ⟨hpc, rfl, rfl, htr⟩ | ⟨e, hpc, rfl, rfl⟩ |
      ⟨e, ok, hpc, rfl, rfl⟩ | ⟨e, ok, hpc, rfl, rfl, hp⟩ | ⟨x, rfl, hc⟩
    case inr.inr.inr.inr.inl =>
      -- the linearization point of trypass
      have hpos : 0 < s.lb := by have := ht p; rw [hpc] at this; exact this hne
      have hsh := h.shz (thief_not_resetting s h p hl)
      refine .of_parts (by simp only [applySto, Bnd.Glob]; omega) (ho.of_unlocked (h.glob.owner_unlocked hl))
        fun q => ?_
      by_cases hq : q = p
      · simp only [applySto, hq, upd_same, hpc]; exact fun hn => absurd rfl hn
      · exact (ht q).of_unlocked (h.glob.thief_unlocked hl hq)
    all_goals
      exact .of_parts (by simp only [applySto, Bnd.Glob]; omega) ho
        (ThiefAt.move p ht (Int.le_refl _) (fun q hq => upd_other _ _ _ _ hq) (fun _ _ => rfl)
          (by simp only [applySto, upd_same]; exact (ht p).mono (Int.le_refl _) fun _ => hne))
  · cases hs

theorem bnd_step (s : St) (l : Lbl) (s' : St) : Inv s → Inv s' → Bnd s → step s l = some s' → Bnd s' := by
  intro h h' hb hs
  cases l
  case o => exact bnd_stepO s s' h h' hb hs
  case flushO => exact bnd_flushO s s' h h' hb hs
  case t p => exact bnd_stepT s s' p h h' hb hs
  case flushT p => exact bnd_flushT s s' p h hb hs
  case tDecide p a => exact bnd_stepD s s' p a h hb hs
  -- the calls: from `idle` to a program counter without a clause
  case oPush | oPop | oPut | oClear =>
    simp only [step] at hs
    split at hs <;> simp only [Option.some.injEq, reduceCtorEq] at hs
    subst hs
    exact .of_parts hb.glob trivial hb.thiefAt
  case tTake p | tPass p _ | tPeek p | tWTake p | tWPeek p =>
    simp only [step] at hs
    split at hs <;> simp only [Option.some.injEq, reduceCtorEq] at hs
    subst hs
    exact .of_parts hb.glob hb.ownerAt
      (ThiefAt.move p hb.thiefAt (Int.le_refl _) (fun _ _ => rfl) (fun q hq => upd_other _ _ _ _ hq)
        (by simp only [upd_same, Bnd.ThiefAt]))

theorem reachable_bnd (n : Int) (hn : 0 ≤ n) (s : St) (hr : Reachable step (init FenceCfg.code n) s) :
    Inv s ∧ Bnd s := by
  refine inv_reachable step (init FenceCfg.code n) (fun s => Inv s ∧ Bnd s) ⟨init_inv n, init_bnd n hn⟩ ?_ s hr
  intro s l s' ⟨hi, hb⟩ hs
  have hi' := step_inv s l s' hi hs
  exact ⟨hi', bnd_step s l s' hi hi' hb hs⟩

/-- with the bounds: the overflow tests fire exactly at capacity, and the `myth_assert`s of the
    re-centring / insertion code hold -/
theorem abort_iff_full (s : St) (h : Inv s) (hb : Bnd s) :
    (∀ e, s.opc = .pub e → (viewBase s.bufO s.base = 0 ↔ (s.A.length : Int) = s.size)) ∧
    (∀ e, s.opc = .pt2 e → (viewTop s.bufO s.top = s.size ↔ (s.A.length : Int) = s.size)) := by
  have hlen := h.len
  have h0 := hb.lb0
  have h1 := hb.lts
  refine ⟨?_, ?_⟩
  · intro e hpc
    obtain ⟨hv, hsz⟩ := (overflow_tests_logical s h).1 e hpc
    rw [hv]; constructor <;> intro <;> omega
  · intro e hpc
    obtain ⟨hv, hz⟩ := (overflow_tests_logical s h).2 e hpc
    rw [hv]; constructor <;> intro <;> omega

end MythVerif.WsqTso
