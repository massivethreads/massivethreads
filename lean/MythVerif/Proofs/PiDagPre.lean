import MythVerif.Proofs.PiDagFlattenGrouped
/-! Preorder of the slots of a laid-out DAG (create node, then its child task, then the next
sibling) and its leaves: tree-level facts used to rank the edges. -/
namespace MythVerif.PiDag
open MythVerif.DagRec

/-! ### "before" in a list -/

def Bef (l : List Nat) (u v : Nat) : Prop := u ∈ l ∧ v ∈ l ∧ l.idxOf u < l.idxOf v

theorem bef_append_left {l1 l2 : List Nat} {u v : Nat} (h : Bef l1 u v) : Bef (l1 ++ l2) u v := by
  obtain ⟨h1, h2, h3⟩ := h
  refine ⟨by simp [h1], by simp [h2], ?_⟩
  rw [List.idxOf_append, List.idxOf_append, if_pos h1, if_pos h2]
  exact h3

theorem bef_append_right {l1 l2 : List Nat} {u v : Nat} (h : Bef l2 u v) (hu : u ∉ l1) (hv : v ∉ l1) :
    Bef (l1 ++ l2) u v := by
  obtain ⟨h1, h2, h3⟩ := h
  refine ⟨by simp [h1], by simp [h2], ?_⟩
  rw [List.idxOf_append, List.idxOf_append, if_neg hu, if_neg hv]
  omega

theorem bef_append_cross {l1 l2 : List Nat} {u v : Nat} (hu : u ∈ l1) (hv : v ∉ l1) (hv2 : v ∈ l2) :
    Bef (l1 ++ l2) u v := by
  refine ⟨by simp [hu], by simp [hv2], ?_⟩
  rw [List.idxOf_append, List.idxOf_append, if_pos hu, if_neg hv]
  have := List.idxOf_lt_length_of_mem hu
  omega

theorem bef_cons {l : List Nat} {x u v : Nat} (h : Bef l u v) (hu : u ≠ x) (hv : v ≠ x) : Bef (x :: l) u v := by
  have := bef_append_right (l1 := [x]) h (by simpa using hu) (by simpa using hv)
  simpa using this

theorem bef_cons_head {l : List Nat} {x v : Nat} (hv : v ∈ l) (hne : v ≠ x) : Bef (x :: l) x v := by
  have := bef_append_cross (l1 := [x]) (l2 := l) (u := x) (v := v) (by simp) (by simpa using hne) hv
  simpa using this

mutual
def preN : DNode → Nat → Nat → List Nat
  | .ival _, idx, _ => [idx]
  | .create _ ch, idx, base => idx :: preN ch base (base + 1)
  | .group _ ds, idx, base => idx :: preL ds base (base + ds.length)
def preL : DList → Nat → Nat → List Nat
  | .nil, _, _ => []
  | .cons d r, k, base => preN d k base ++ preL r (k + 1) (base + descT d)
end

mutual
theorem mem_preN : ∀ (d : DNode) (idx base r : Nat), r ∈ preN d idx base ↔ InN d idx base r
  | .ival _, idx, base, r => by simp only [preN, InN, descT, List.mem_singleton]; omega
  | .create i ch, idx, base, r => by
    have := mem_preN ch base (base + 1) r
    simp only [preN, List.mem_cons, this, InN, descT]
    omega
  | .group i ds, idx, base, r => by
    have := mem_preL ds base (base + ds.length) r
    have e := descL_eq ds
    simp only [preN, List.mem_cons, this, InN, InL, descT]
    omega
theorem mem_preL : ∀ (ds : DList) (k base r : Nat), r ∈ preL ds k base ↔ InL ds k base r
  | .nil, k, base, r => by simp [preL, InL, DList.length, descS]
  | .cons d rr, k, base, r => by
    have h1 := mem_preN d k base r
    have h2 := mem_preL rr (k + 1) (base + descT d) r
    simp only [preL, List.mem_append, h1, h2, InN, InL, DList.length, descS]
    omega
end

mutual
def leavesN : DNode → Nat → Nat → List Nat
  | .ival _, idx, _ => [idx]
  | .create _ ch, idx, base => idx :: leavesN ch base (base + 1)
  | .group _ ds, idx, base => if ds.isNil then [idx] else leavesL ds base (base + ds.length)
def leavesL : DList → Nat → Nat → List Nat
  | .nil, _, _ => []
  | .cons d r, k, base => leavesN d k base ++ leavesL r (k + 1) (base + descT d)
end

mutual
theorem leavesN_in : ∀ (d : DNode) (idx base r : Nat), r ∈ leavesN d idx base → InN d idx base r
  | .ival _, idx, base, r, h => by simp [leavesN] at h; exact Or.inl h
  | .create i ch, idx, base, r, h => by
    simp only [leavesN, List.mem_cons] at h
    rcases h with h | h
    · exact Or.inl h
    · have := leavesN_in ch base (base + 1) r h
      simp only [InN, descT] at this ⊢
      omega
  | .group i ds, idx, base, r, h => by
    simp only [leavesN] at h
    split at h
    · simp at h; exact Or.inl h
    · have := leavesL_in ds base (base + ds.length) r h
      have e := descL_eq ds
      simp only [InN, InL, descT] at this ⊢
      omega
theorem leavesL_in : ∀ (ds : DList) (k base r : Nat), r ∈ leavesL ds k base → InL ds k base r
  | .nil, _, _, _, h => by simp [leavesL] at h
  | .cons d rr, k, base, r, h => by
    simp only [leavesL, List.mem_append] at h
    simp only [InL, DList.length, descS]
    rcases h with h | h
    · have := leavesN_in d k base r h
      simp only [InN] at this
      omega
    · have := leavesL_in rr (k + 1) (base + descT d) r h
      simp only [InL] at this
      omega
end

/-- a leaf slot of the array is a leaf of the tree -/
theorem isLeaf_group_cons {T : Array PNode} {i : Info} {d1 : DNode} {r : DList} {g b' : Nat}
    (hl : LayN T (.group i (.cons d1 r)) g b') (hw : gW (.group i (.cons d1 r)) = true) : isLeaf T[g]! = false := by
  obtain ⟨h1, h2, h3, h4, h5, h6⟩ := group_kind_facts hl hw
  simp only [DList.length] at h3
  unfold isLeaf
  have : ¬ T[g]!.a = T[g]!.b := by omega
  simp [h1, this]

mutual
theorem leaf_memN (T : Array PNode) : ∀ (d : DNode) (idx base : Nat), LayN T d idx base → gW d = true →
    ∀ r, InN d idx base r → isLeaf T[r]! = true → r ∈ leavesN d idx base
  | .ival _, idx, base, _, _, r, hr, _ => by
    simp only [InN, descT] at hr
    simp [leavesN]; omega
  | .create i ch, idx, base, hl, hw, r, hr, hleaf => by
    simp only [LayN] at hl
    simp only [gW, Bool.and_eq_true] at hw
    simp only [leavesN, List.mem_cons]
    simp only [InN, descT] at hr
    by_cases h : r = idx
    · exact Or.inl h
    · right
      exact leaf_memN T ch base (base + 1) hl.2.2.2 hw.2 r (by simp only [InN]; omega) hleaf
  | .group i ds, idx, base, hl, hw, r, hr, hleaf => by
    cases ds with
    | nil =>
      simp only [InN, descT, descL] at hr
      simp [leavesN, DList.isNil]; omega
    | cons d1 rr =>
      have hnl := isLeaf_group_cons hl hw
      obtain ⟨h1, h2, h3, h4, h5, h6⟩ := group_kind_facts hl hw
      simp only [leavesN, DList.isNil, Bool.false_eq_true, if_false]
      have e := descL_eq (.cons d1 rr)
      simp only [InN, descT] at hr
      have hne : r ≠ idx := fun h => by rw [h, hnl] at hleaf; cases hleaf
      exact leaf_memL T _ base _ h5 h6 r (by simp only [InL]; omega) hleaf
theorem leaf_memL (T : Array PNode) : ∀ (ds : DList) (k base : Nat), LayL T ds k base → gWL ds = true →
    ∀ r, InL ds k base r → isLeaf T[r]! = true → r ∈ leavesL ds k base
  | .nil, _, _, _, _, r, hr, _ => by simp [InL, DList.length, descS] at hr; omega
  | .cons d rr, k, base, hl, hw, r, hr, hleaf => by
    simp only [LayL] at hl
    simp only [gWL, Bool.and_eq_true] at hw
    simp only [leavesL, List.mem_append]
    simp only [InL, DList.length, descS] at hr
    by_cases h : r = k ∨ (base ≤ r ∧ r < base + descT d)
    · left; exact leaf_memN T d k base hl.1 hw.1 r h hleaf
    · right
      exact leaf_memL T rr (k + 1) (base + descT d) hl.2 hw.2 r (by simp only [InL]; omega) hleaf
end

end MythVerif.PiDag
