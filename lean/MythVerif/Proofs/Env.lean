import MythVerif.Model.Env
/-! Lemmas about `atoi` and the configuration readers (C15). -/
namespace MythVerif.Env

theorem wrap32_lo (x : Int) : -(2 ^ 31) ≤ wrap32 x := by unfold wrap32; omega
theorem wrap32_hi (x : Int) : wrap32 x < 2 ^ 31 := by unfold wrap32; omega
theorem wrap32_id (x : Int) (h1 : -(2 ^ 31) ≤ x) (h2 : x < 2 ^ 31) : wrap32 x = x := by
  unfold wrap32; omega

theorem atoi_lo (s : CStr) : -(2 ^ 31) ≤ atoi s := wrap32_lo _
theorem atoi_hi (s : CStr) : atoi s < 2 ^ 31 := wrap32_hi _

theorem toSizeT_pos (x : Int) (h1 : 0 < x) (h2 : x < 2 ^ 31) : toSizeT x = x.toNat ∧ 0 < toSizeT x := by
  unfold toSizeT
  have : x % 2 ^ 64 = x := Int.emod_eq_of_lt (by omega) (by omega)
  rw [this]; omega

theorem digitsVal_ge (l : CStr) : ∀ acc, acc ≤ digitsVal l acc := by
  induction l with
  | nil => intro acc; simp [digitsVal]
  | cons c cs ih =>
    intro acc
    simp only [digitsVal]
    split
    · have := ih (acc * 10 + digitVal c); omega
    · exact Nat.le_refl _

/-- all characters are decimal digits -/
def AllDigits (ds : CStr) : Prop := ∀ c ∈ ds, isDigit c = true
/-- the string does not start with a decimal digit -/
def NoDigitHead (r : CStr) : Prop := ∀ c, r.head? = some c → isDigit c = false

theorem digitsVal_append (ds rest : CStr) (hd : AllDigits ds) (hr : NoDigitHead rest) :
    ∀ acc, digitsVal (ds ++ rest) acc = digitsVal ds acc := by
  induction ds with
  | nil =>
    intro acc
    cases rest with
    | nil => rfl
    | cons c cs => have := hr c rfl; simp [digitsVal, this]
  | cons d ds ih =>
    intro acc
    have hd1 : isDigit d = true := hd d (by simp)
    have hd2 : AllDigits ds := fun c hc => hd c (by simp [hc])
    simp only [List.cons_append, digitsVal, hd1, if_true]
    exact ih hd2 _

theorem digitsVal_noDigit (r : CStr) (hr : NoDigitHead r) (acc : Nat) : digitsVal r acc = acc := by
  have := digitsVal_append [] r (by intro c hc; cases hc) hr acc
  simpa [digitsVal] using this

/-- the first character `strtol` looks at after white space and an optional sign -/
def numberStart (s : CStr) : CStr := (signAndDigits s).2

/-- "non-numeric": after white space and an optional sign there is no decimal digit
    (covers the empty string) -/
def NonNumeric (s : CStr) : Prop := NoDigitHead (numberStart s)

theorem strtol_nonNumeric (s : CStr) (h : NonNumeric s) : strtol s = 0 := by
  unfold NonNumeric numberStart at h
  unfold strtol
  have : digitsVal (signAndDigits s).2 0 = 0 := digitsVal_noDigit _ h 0
  cases hs : signAndDigits s with
  | mk neg ds =>
    rw [hs] at this
    simp only [] at this
    simp [this, longMin, longMax]

theorem atoi_nonNumeric (s : CStr) (h : NonNumeric s) : atoi s = 0 := by
  unfold atoi; rw [strtol_nonNumeric s h]; unfold wrap32; omega

theorem nonNumeric_nil : NonNumeric [] := by
  intro c h; simp [numberStart, signAndDigits, skipSpace] at h

theorem isDigit_not_space (c : Char) (h : isDigit c = true) : isSpace c = false := by
  unfold isDigit at h; unfold isSpace
  simp only [Bool.and_eq_true, decide_eq_true_eq] at h
  simp only [Bool.or_eq_false_iff, Bool.and_eq_false_iff, beq_eq_false_iff_ne, decide_eq_false_iff_not]
  omega

theorem isDigit_not_sign (c : Char) (h : isDigit c = true) : c ≠ '-' ∧ c ≠ '+' := by
  unfold isDigit at h
  simp only [Bool.and_eq_true, decide_eq_true_eq] at h
  constructor <;> (intro hc; subst hc; revert h; decide)

/-- a plain decimal number `ds` (digits only, value below 2^31), whatever follows it:
    `atoi` returns its value -/
theorem atoi_digits (ds rest : CStr) (hne : ds ≠ []) (hd : AllDigits ds) (hr : NoDigitHead rest)
    (hv : digitsVal ds 0 < 2 ^ 31) : atoi (ds ++ rest) = digitsVal ds 0 := by
  cases ds with
  | nil => exact absurd rfl hne
  | cons d ds' =>
    have hd1 : isDigit d = true := hd d (by simp)
    have hsp := isDigit_not_space d hd1
    have hsg := isDigit_not_sign d hd1
    have hsd : signAndDigits ((d :: ds') ++ rest) = (false, (d :: ds') ++ rest) := by
      simp [signAndDigits, skipSpace, hsp, hsg.1, hsg.2]
    unfold atoi strtol
    rw [hsd]
    simp only []
    rw [digitsVal_append _ _ hd hr]
    have : ¬ ((digitsVal (d :: ds') 0 : Nat) : Int) > longMax := by unfold longMax; omega
    simp only [Bool.false_eq_true, if_false, this]
    exact wrap32_id _ (by omega) (by omega)

theorem defStack_pos : 0 < defStack := by decide
theorem defGuard_pos : 0 < defGuard := by decide

theorem stacksize_pos (env : Option CStr) : 0 < stacksize env := by
  unfold stacksize
  cases env with
  | none => simp [defStack_pos]
  | some s =>
    simp only []
    by_cases hx : atoi s > 0
    · have := toSizeT_pos (atoi s) hx (atoi_hi s)
      simp only [hx, if_true]
      split <;> omega
    · simp [hx, defStack_pos]

theorem stacksize_default (s : CStr) (h : atoi s ≤ 0) : stacksize (some s) = defStack := by
  unfold stacksize
  have : ¬ atoi s > 0 := by omega
  simp [this]

theorem stacksize_unset : stacksize none = defStack := by simp [stacksize]

theorem stacksize_value (s : CStr) (h : atoi s > 0) : (stacksize (some s) : Int) = atoi s := by
  unfold stacksize
  have := toSizeT_pos (atoi s) h (atoi_hi s)
  simp only [h, if_true]
  have h2 : ¬ toSizeT (atoi s) ≤ 0 := by omega
  simp only [h2, if_false]
  omega

theorem numWorkers_pos (nw old : Option CStr) (ncpu : Int) (hc : 0 < ncpu) :
    0 < (numWorkers nw old ncpu).1 := by
  unfold numWorkers
  simp only []
  split <;> omega

theorem numWorkers_set (s : CStr) (old : Option CStr) (ncpu : Int) :
    (numWorkers (some s) old ncpu).1 = if atoi s > 0 then atoi s else ncpu := by
  unfold numWorkers
  simp only []
  split <;> split <;> omega

theorem numWorkers_unset (ncpu : Int) : (numWorkers none none ncpu).1 = ncpu := by
  simp [numWorkers]

theorem numWorkers_old (s : CStr) (ncpu : Int) :
    numWorkers none (some s) ncpu = (if atoi s > 0 then atoi s else ncpu, true) := by
  unfold numWorkers
  simp only []
  split <;> split <;> first | rfl | omega

theorem gattrDefault_nw_pos (e : Environ) (ncpu : Int) (hc : 0 < ncpu) :
    0 < (gattrDefault e ncpu).nWorkers := numWorkers_pos _ _ _ hc

end MythVerif.Env
