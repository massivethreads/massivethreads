import MythVerif.Proofs.DagRecPath
/-!
The recorder's top-down earliest-start times (`est`) are a feasible potential of the dependency
graph (`edgesT`): along every edge `u → v`, `est u + dur u ≤ est v`; all edges go forward in
program order.  Before that: position of the last interval, `est` of the first interval.
-/
namespace MythVerif.DagRec
open MythVerif.PiDag (PEdge)

/-- the functions `E` (start time) and `D` (duration) on positions agree, from position `o` on,
    with the `est` / `t_1` of the leaf infos `L` -/
def Agree (E D : Nat → Nat) (o : Nat) (L : List Info) : Prop :=
  ∀ j (h : j < L.length), E (o + j) = L[j].c.est ∧ D (o + j) = L[j].c.t1

/-- a statement about every element of `A ++ B` and its position, from offset `o` on, splits -/
theorem forall_getElem_append {α : Type} {P : Nat → α → Prop} {o : Nat} {A B : List α}
    (h : ∀ j (hj : j < (A ++ B).length), P (o + j) (A ++ B)[j]) :
    (∀ j (hj : j < A.length), P (o + j) A[j]) ∧ (∀ j (hj : j < B.length), P (o + A.length + j) B[j]) := by
  constructor
  · intro j hj
    have := h j (by simp; omega)
    rwa [List.getElem_append_left hj] at this
  · intro j hj
    have := h (A.length + j) (by simp; omega)
    rw [List.getElem_append_right (by omega)] at this
    simpa [Nat.add_assoc] using this

theorem forall_getElem_cons {α : Type} {P : Nat → α → Prop} {o : Nat} {a : α} {L : List α}
    (h : ∀ j (hj : j < (a :: L).length), P (o + j) (a :: L)[j]) :
    P o a ∧ (∀ j (hj : j < L.length), P (o + 1 + j) L[j]) := by
  obtain ⟨h1, h2⟩ := forall_getElem_append (A := [a]) h
  exact ⟨h1 0 (by simp), h2⟩

theorem Agree.append {E D : Nat → Nat} {o : Nat} {A B : List Info} (h : Agree E D o (A ++ B)) :
    Agree E D o A ∧ Agree E D (o + A.length) B :=
  forall_getElem_append (P := fun u (i : Info) => E u = i.c.est ∧ D u = i.c.t1) h

theorem Agree.cons {E D : Nat → Nat} {o : Nat} {i : Info} {L : List Info} (h : Agree E D o (i :: L)) :
    (E o = i.c.est ∧ D o = i.c.t1) ∧ Agree E D (o + 1) L :=
  forall_getElem_cons (P := fun u (i : Info) => E u = i.c.est ∧ D u = i.c.t1) h

mutual
theorem leafInfosTree_t1 (v : Variant) : ∀ (t : Tree) (c : Cursor),
    (leafInfosTree v t c).map (fun i => i.c.t1) = (leavesTree t).map Leaf.dur
  | .ival _ _, _ => by simp [leafInfosTree, leavesTree, endInterval, Leaf.dur]
  | .create r ch, c => by
    simp [leafInfosTree, leavesTree, endInterval, Leaf.dur, leafInfosTree_t1 v ch]
  | .group _ f, c => by simp [leafInfosTree, leavesTree, leafInfosForest_t1 v f]
theorem leafInfosForest_t1 (v : Variant) : ∀ (f : Forest) (c : Cursor),
    (leafInfosForest v f c).map (fun i => i.c.t1) = (leavesForest f).map Leaf.dur
  | .nil, _ => by simp [leafInfosForest, leavesForest]
  | .cons t r, c => by
    simp [leafInfosForest, leavesForest, leafInfosTree_t1 v t, leafInfosForest_t1 v r]
end

theorem leafInfosTree_length (v : Variant) (t : Tree) (c : Cursor) :
    (leafInfosTree v t c).length = (leavesTree t).length := by
  simpa using congrArg List.length (leafInfosTree_t1 v t c)

theorem leafInfosForest_length (v : Variant) (f : Forest) (c : Cursor) :
    (leafInfosForest v f c).length = (leavesForest f).length := by
  simpa using congrArg List.length (leafInfosForest_t1 v f c)

theorem le_maxFinish : ∀ (L : List Info) (j : Nat) (h : j < L.length), L[j].c.est + L[j].c.t1 ≤ maxFinish L
  | [], j, h => by simp at h
  | i :: L, 0, _ => by simp only [maxFinish, List.getElem_cons_zero]; exact Nat.le_max_left _ _
  | i :: L, j + 1, h => by
    simp only [maxFinish, List.getElem_cons_succ]
    exact Nat.le_trans (le_maxFinish L j (by simpa using h)) (Nat.le_max_right _ _)

theorem exists_maxFinish : ∀ (L : List Info), L ≠ [] →
    ∃ j, ∃ h : j < L.length, L[j].c.est + L[j].c.t1 = maxFinish L
  | [], h => absurd rfl h
  | [i], _ => ⟨0, by simp, by simp [maxFinish]⟩
  | i :: i' :: L, _ => by
    obtain ⟨j, hj, e⟩ := exists_maxFinish (i' :: L) (by simp)
    by_cases hc : maxFinish (i' :: L) ≤ i.c.est + i.c.t1
    · refine ⟨0, by simp, ?_⟩
      rw [maxFinish]
      simp only [List.getElem_cons_zero, Nat.max_def]
      split <;> omega
    · refine ⟨j + 1, by simp at hj ⊢; omega, ?_⟩
      rw [maxFinish, List.getElem_cons_succ, e]
      simp only [Nat.max_def]
      split <;> omega

theorem Agree.finish_le {E D : Nat → Nat} {o : Nat} {L : List Info} (h : Agree E D o L) (j : Nat)
    (hj : j < L.length) : E (o + j) + D (o + j) ≤ maxFinish L := by
  rw [(h j hj).1, (h j hj).2]; exact le_maxFinish L j hj

theorem isLast_ival {b : Bool} {t : Tree} (h : isLast b t = true) : ∃ k r, t = .ival k r := by
  cases t with
  | ival k r => exact ⟨k, r, rfl⟩
  | create _ _ => simp [isLast] at h
  | group _ _ => simp [isLast] at h

theorem wnItem_group {b : Bool} {k : NKind} {f : Forest} (h : wnItem b (.group k f) = true) :
    k = .section ∧ wnForest false f = true := by
  simpa [wnItem] using h

theorem wnItem_create {b : Bool} {r : Raw} {ch : Tree} (h : wnItem b (.create r ch) = true) :
    b = false ∧ wnTask ch = true := by
  simpa [wnItem] using h

theorem lastF_cons2 (x y : Tree) (r : Forest) (o d : Nat) :
    lastF (.cons x (.cons y r)) o d = lastF (.cons y r) (o + (leavesTree x).length) (lastT x o) := rfl

/-! ### the first interval starts at the cursor's `est` -/

mutual
theorem Agree.headT {E D : Nat → Nat} {o : Nat} {v : Variant} : ∀ {t : Tree} {c : Cursor},
    Agree E D o (leafInfosTree v t c) → WnAny t → E o = c.est
  | .ival k r, c, h, _ => by simpa [endInterval] using (Agree.cons (L := []) h).1.1
  | .create r ch, c, h, _ => by
    simp only [leafInfosTree] at h
    simpa [endInterval] using h.cons.1.1
  | .group k f, c, h, hw => by
    obtain ⟨b, hb⟩ := wnAny_group hw
    exact Agree.headF (f := f) h hb
theorem Agree.headF {E D : Nat → Nat} {o : Nat} {v : Variant} : ∀ {f : Forest} {c : Cursor} {b : Bool},
    Agree E D o (leafInfosForest v f c) → wnForest b f = true → E o = c.est
  | .nil, _, _, _, h => by simp [wnForest] at h
  | .cons t .nil, c, b, ha, h => by
    rw [leafInfosForest_cons] at ha
    exact Agree.headT ha.append.1 (wnAny_of_last (by simpa [wnForest] using h))
  | .cons t (.cons t' r), c, b, ha, h => by
    rw [leafInfosForest_cons] at ha
    simp only [wnForest, Bool.and_eq_true] at h
    exact Agree.headT ha.append.1 (wnAny_of_item h.1)
end

/-! ### the last interval lies inside the node -/

mutual
theorem lastT_range : ∀ (x : Tree) (o : Nat), WnAny x →
    o ≤ lastT x o ∧ lastT x o < o + (leavesTree x).length
  | .ival _ _, o, _ => by simp [lastT, leavesTree]
  | .create _ _, o, _ => by simp [lastT, leavesTree]
  | .group k f, o, h => by
    obtain ⟨b, hb⟩ := wnAny_group h
    simpa [lastT, leavesTree] using lastF_range f o o b hb
theorem lastF_range : ∀ (f : Forest) (o d : Nat) (b : Bool), wnForest b f = true →
    o ≤ lastF f o d ∧ lastF f o d < o + (leavesForest f).length
  | .nil, _, _, _, h => by simp [wnForest] at h
  | .cons x .nil, o, d, b, h => by
    simp only [wnForest] at h
    simpa [lastF, leavesForest] using lastT_range x o (wnAny_of_last h)
  | .cons x (.cons y r), o, d, b, h => by
    simp only [wnForest, Bool.and_eq_true] at h
    have ih := lastF_range (.cons y r) (o + (leavesTree x).length) (lastT x o) b h.2
    rw [lastF_cons2, leavesForest_cons, List.length_append]
    omega
end

theorem leavesForest_pos {b : Bool} {f : Forest} (hw : wnForest b f = true) : 0 < (leavesForest f).length := by
  have := lastF_range f 0 0 b hw; omega

theorem leavesTree_pos {t : Tree} (hw : WnAny t) : 0 < (leavesTree t).length := by
  have := lastT_range t 0 hw; omega

/-! ### what `viewTree_span` says about the leaves of one node -/

/-- `t_inf` of the node the subtree `x` is recorded as when its task's cursor is `c` -/
abbrev tinfT (v : Variant) (x : Tree) (c : Cursor) : Nat := (viewTree v x c).1.i.c.tinf

theorem span_leaves (v : Variant) (x : Tree) (c : Cursor) (h : WnAny x) :
    maxFinish (leafInfosTree v x c) = c.est + tinfT v x c + (viewTree v x c).1.sub :=
  ((viewTree_span v x c).1 h).2.1

theorem span_next (v : Variant) (x : Tree) (c : Cursor) {b : Bool} (h : wnItem b x = true) :
    (viewTree v x c).2.est = c.est + tinfT v x c :=
  (viewTree_span v x c).2 b h

theorem sub_ival (v : Variant) (k : NKind) (r : Raw) (c : Cursor) : (viewTree v (.ival k r) c).1.sub = 0 :=
  View.sub_none _ (by simp [viewTree])

theorem sub_group (v : Variant) (k : NKind) (f : Forest) (c : Cursor) : (viewTree v (.group k f) c).1.sub = 0 :=
  View.sub_none _ (by simp [viewTree])

/-- splitting the agreement at a non-last child `x`: the successor starts at `est + t_inf(x)` -/
theorem Agree.junction {E D : Nat → Nat} {o : Nat} {v : Variant} {x : Tree} {rest : Forest} {c : Cursor} {b : Bool}
    (h : Agree E D o (leafInfosForest v (.cons x rest) c)) (hx : wnItem b x = true) (hr : wnForest b rest = true) :
    Agree E D o (leafInfosTree v x c) ∧
    Agree E D (o + (leavesTree x).length) (leafInfosForest v rest (viewTree v x c).2) ∧
    E (o + (leavesTree x).length) = c.est + tinfT v x c := by
  rw [leafInfosForest_cons] at h
  obtain ⟨h1, h2⟩ := h.append
  rw [leafInfosTree_length] at h2
  exact ⟨h1, h2, by rw [h2.headF hr, span_next v x c hx]⟩

/-- a create interval finishes at `est + t_inf(create node)` -/
theorem Agree.create_finish {E D : Nat → Nat} {o : Nat} {v : Variant} {r : Raw} {ch : Tree} {c : Cursor}
    (h : Agree E D o (leafInfosTree v (.create r ch) c)) :
    E o = c.est ∧ D o = tinfT v (.create r ch) c ∧
    Agree E D (o + 1) (leafInfosTree v ch (cursorAfter (endInterval .createTask r c) .create)) ∧
    (cursorAfter (endInterval .createTask r c) .create).est = c.est + tinfT v (.create r ch) c := by
  simp only [leafInfosTree] at h
  obtain ⟨⟨h1, h2⟩, h3⟩ := h.cons
  refine ⟨by simpa [endInterval] using h1, by simpa [tinfT, endInterval, viewTree] using h2, h3, ?_⟩
  simp [tinfT, cursorAfter, endInterval, viewTree]

/-- every interval of a section / `other` child finishes before the successor starts -/
theorem Agree.finish_le_next {E D : Nat → Nat} {o : Nat} {v : Variant} {x : Tree} {c : Cursor}
    (h : Agree E D o (leafInfosTree v x c)) (hw : WnAny x) (hnc : ∀ r ch, x ≠ .create r ch)
    (u : Nat) (h1 : o ≤ u) (h2 : u < o + (leavesTree x).length) : E u + D u ≤ c.est + tinfT v x c := by
  have := h.finish_le (u - o) (by rw [leafInfosTree_length]; omega)
  rw [show o + (u - o) = u by omega, span_leaves v x c hw] at this
  cases x with
  | ival k r => rwa [sub_ival, Nat.add_zero] at this
  | create r ch => exact absurd rfl (hnc r ch)
  | group k f => rwa [sub_group, Nat.add_zero] at this

/-! ### feasibility: `est u + dur u ≤ est v` along every edge, edges go forward -/

/-- the edge stays inside `[lo, hi)`, goes forward, and respects the start times -/
def EdgeOK (E D : Nat → Nat) (lo hi : Nat) (e : PEdge) : Prop :=
  lo ≤ e.u ∧ e.u < e.v ∧ e.v < hi ∧ E e.u + D e.u ≤ E e.v

theorem EdgeOK.mono {E D : Nat → Nat} {lo hi lo' hi' : Nat} {e : PEdge} (h : EdgeOK E D lo hi e)
    (h1 : lo' ≤ lo) (h2 : hi ≤ hi') : EdgeOK E D lo' hi' e :=
  ⟨by have := h.1; omega, h.2.1, by have := h.2.2.1; omega, h.2.2.2⟩

/-- the `create` / `end` edges of the children of a section: a `create` edge goes from a create
    interval to the next position and is tight; an `end` edge starts inside the section -/
theorem createF_ok (v : Variant) (E D : Nat → Nat) (t : Nat) : ∀ (f : Forest) (o : Nat) (c : Cursor),
    wnForest false f = true → Agree E D o (leafInfosForest v f c) → ∀ e ∈ createEdgesF t f o,
      (e.kind = .create ∧ o ≤ e.u ∧ e.v = e.u + 1 ∧ e.v < o + (leavesForest f).length ∧ E e.u + D e.u = E e.v) ∨
      (e.kind = .end_ ∧ o ≤ e.u ∧ e.u < o + (leavesForest f).length ∧ e.v = t)
  | .nil, _, _, h, _ => by simp [wnForest] at h
  | .cons x .nil, o, c, h, _ => by
    simp only [wnForest] at h
    obtain ⟨k, r, rfl⟩ := isLast_ival h
    simp [createEdgesF, createOfT]
  | .cons x (.cons y r'), o, c, h, ha => by
    simp only [wnForest, Bool.and_eq_true] at h
    obtain ⟨a1, a2, _⟩ := ha.junction h.1 h.2
    have ih := createF_ok v E D t (.cons y r') (o + (leavesTree x).length) (viewTree v x c).2 h.2 a2
    have hpos := leavesForest_pos h.2
    intro e he
    rw [createEdgesF, List.mem_append] at he
    rw [leavesForest_cons, List.length_append]
    rcases he with he | he
    · cases x with
      | ival _ _ => simp [createOfT] at he
      | group _ _ => simp [createOfT] at he
      | create rr ch =>
        have hch := (wnItem_create h.1).2
        obtain ⟨b1, b2, b3, b4⟩ := a1.create_finish
        have hl := lastT_range ch (o + 1) (wnAny_of_task hch)
        simp only [createOfT, List.mem_cons, List.not_mem_nil, or_false] at he
        simp only [leavesTree, List.length_cons] at hl ⊢
        rcases he with rfl | rfl
        · left
          have := b3.headT (wnAny_of_task hch)
          have hp := leavesTree_pos (wnAny_of_task hch)
          refine ⟨rfl, Nat.le_refl _, rfl, by simp only; omega, ?_⟩
          simp only
          omega
        · right
          exact ⟨rfl, by simp only; omega, by simp only; omega, rfl⟩
    · rcases ih e he with q | q
      · left; exact ⟨q.1, by omega, q.2.2.1, by omega, q.2.2.2.2⟩
      · right; exact ⟨q.1, by omega, by omega, q.2.2.2⟩

theorem groupEdgesF_cons2 (x y : Tree) (r : Forest) (o : Nat) :
    groupEdgesF (.cons x (.cons y r)) o =
      itemEdgesT (o + (leavesTree x).length) x o ++ groupEdgesF (.cons y r) (o + (leavesTree x).length) := by
  simp [groupEdgesF, Forest.isNil]

theorem edgesSubF_cons (x : Tree) (r : Forest) (o : Nat) :
    edgesSubF (.cons x r) o = edgesT x o ++ edgesSubF r (o + (leavesTree x).length) := by
  rw [edgesSubF]

mutual
/-- every edge of the subtree goes forward inside the subtree, and the target starts no earlier
    than the source finishes -/
theorem feasT (v : Variant) (E D : Nat → Nat) : ∀ (x : Tree) (o : Nat) (c : Cursor), WnAny x →
    Agree E D o (leafInfosTree v x c) → ∀ e ∈ edgesT x o, EdgeOK E D o (o + (leavesTree x).length) e
  | .ival _ _, _, _, _, _ => by simp [edgesT]
  | .create r ch, o, c, h, ha => by
    have hch := wnAny_create h
    obtain ⟨_, _, b3, _⟩ := ha.create_finish
    intro e he
    simp only [edgesT] at he
    have := feasT v E D ch (o + 1) _ (wnAny_of_task hch) b3 e he
    simp only [leavesTree, List.length_cons]
    exact this.mono (by omega) (by omega)
  | .group k f, o, c, h, ha => by
    obtain ⟨b, hb⟩ := wnAny_group h
    simp only [leafInfosTree] at ha
    intro e he
    simp only [edgesT] at he
    simp only [leavesTree]
    exact feasF v E D f o c b hb ha e he
theorem feasF (v : Variant) (E D : Nat → Nat) : ∀ (f : Forest) (o : Nat) (c : Cursor) (b : Bool),
    wnForest b f = true → Agree E D o (leafInfosForest v f c) →
    ∀ e ∈ groupEdgesF f o ++ edgesSubF f o, EdgeOK E D o (o + (leavesForest f).length) e
  | .nil, _, _, _, h, _ => by simp [wnForest] at h
  | .cons x .nil, o, c, b, h, ha => by
    simp only [wnForest] at h
    rw [leafInfosForest_cons] at ha
    have a1 := ha.append.1
    intro e he
    simp only [groupEdgesF, Forest.isNil, if_true, edgesSubF, List.nil_append, List.append_nil] at he
    have := feasT v E D x o c (wnAny_of_last h) a1 e he
    simpa [leavesForest] using this
  | .cons x (.cons y r'), o, c, b, h, ha => by
    simp only [wnForest, Bool.and_eq_true] at h
    obtain ⟨a1, a2, a3⟩ := ha.junction h.1 h.2
    have hwx := wnAny_of_item h.1
    have ihx := feasT v E D x o c hwx a1
    have ihr := feasF v E D (.cons y r') (o + (leavesTree x).length) _ b h.2 a2
    have hpos := leavesForest_pos h.2
    have hl := lastT_range x o hwx
    intro e he
    rw [leavesForest_cons, List.length_append]
    rw [groupEdgesF_cons2, edgesSubF_cons] at he
    simp only [List.mem_append] at he
    rcases he with (he | he) | (he | he)
    · simp only [itemEdgesT, List.mem_cons] at he
      rcases he with rfl | he
      · -- the continuation edge
        refine ⟨hl.1, hl.2, by simp only; omega, ?_⟩
        simp only
        rw [a3]
        cases x with
        | create rr ch =>
          obtain ⟨b1, b2, _, _⟩ := a1.create_finish
          simp only [lastT]; omega
        | ival k r => exact a1.finish_le_next hwx (by intro _ _ h; cases h) _ hl.1 hl.2
        | group k f => exact a1.finish_le_next hwx (by intro _ _ h; cases h) _ hl.1 hl.2
      · -- the create / end edges of a section
        cases x with
        | ival _ _ => simp [sectionEdgesT] at he
        | create _ _ => simp [sectionEdgesT] at he
        | group k f' =>
          obtain ⟨rfl, hf'⟩ := wnItem_group h.1
          simp only [sectionEdgesT, if_true] at he
          have hlen : (leavesTree (.group .section f')).length = (leavesForest f').length := rfl
          rcases createF_ok v E D _ f' o c hf' a1 e he with q | q
          · exact ⟨q.2.1, by omega, by omega, by omega⟩
          · refine ⟨q.2.1, by omega, by omega, ?_⟩
            rw [q.2.2.2, a3]
            exact a1.finish_le_next hwx (by intro _ _ h; cases h) _ q.2.1 (by omega)
    · exact (ihr e (List.mem_append.2 (Or.inl he))).mono (by omega) (by omega)
    · exact (ihx e he).mono (by omega) (by omega)
    · exact (ihr e (List.mem_append.2 (Or.inr he))).mono (by omega) (by omega)
end

end MythVerif.DagRec
