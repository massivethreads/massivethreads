import MythVerif.Model.PthreadSpec
/-!
For `Properties/C16.lean`, layers 1 and 3.

The kernel decides `=` on numerals at once; on strings it re-encodes both literals as UTF-8 and
walks the bytes, at every comparison.  The wrapper tables hold a few hundred names and are compared
pairwise, so there `decide` compares names through the injective numeral `code`.
-/
namespace MythVerif.PthreadSpec
open MythVerif.Gen.Wrap MythVerif.Attr

/-- the bytes as digits 1..256 of a base-256 numeral, lowest first -/
def num : List UInt8 → Nat
  | [] => 0
  | b :: l => 256 * num l + b.toNat + 1

theorem num_inj : ∀ {l₁ l₂ : List UInt8}, num l₁ = num l₂ → l₁ = l₂
  | [], [], _ => rfl
  | [], _ :: _, h | _ :: _, [], h => by simp only [num] at h; omega
  | a :: l₁, b :: l₂, h => by
    have := a.toNat_lt
    have := b.toNat_lt
    simp only [num] at h
    rw [num_inj (by omega : num l₁ = num l₂), UInt8.toNat_inj.mp (by omega : a.toNat = b.toNat)]

def code (s : String) : Nat := num s.toByteArray.data.toList

theorem code_inj {s t : String} : code s = code t ↔ s = t :=
  ⟨fun h => String.toByteArray_inj.mp (ByteArray.ext (Array.ext' (num_inj h))), fun h => h ▸ rfl⟩

/-- made a local instance where tables of names are decided -/
@[instance_reducible] def instDecidableEqStringCode : DecidableEq String := fun _ _ => decidable_of_iff _ code_inj

/-- `lookup` was elaborated with the library's `==`; this form is the one to evaluate -/
theorem lookup_code (n : String) : lookup n = table.find? (code ·.name == code n) :=
  congrArg (table.find? ·) (funext fun e => Bool.eq_iff_iff.mpr (by simp only [beq_iff_eq, code_inj]))

/-- what `pthread_attr_to_myth` leaves in each field: the pthread object's value in the three fields
    it copies, the library default elsewhere; nothing of the garbage -/
theorem attrToMyth_get (d : Defaults) (garbage : Field → Option Nat) (p : PAttr) (f : Field) :
    (attrToMyth d garbage p).get f = some (match f with
      | .detachstate => p.detachstate | .stackaddr => p.stackaddr | .stacksize => p.stacksize
      | f => defaultOf d f) := by
  cases f <;> rfl

end MythVerif.PthreadSpec
