import MythVerif.Model.Mutex
/-! Inductive invariant of the mutex model and its preservation.

A step moves one thread's pc and possibly rewrites some shared fields.  Steps that leave the four
lists alone go through `Inv.move` (the list clauses carry over); the five steps that move a thread
between lists re-establish each clause from the few old clauses it needs. -/
namespace MythVerif.Mutex

structure Inv (s : St) : Prop where
  own   : ∀ t, ownsBit (s.pc t) = true ↔ s.owner = some t
  bit   : s.word % 2 = 1 ↔ s.owner ≠ none
  annM  : ∀ t, t ∈ s.anns ↔ (s.pc t = .ann ∨ s.pc t = .annSw)
  annN  : s.anns.Nodup
  qA    : ∀ t, t ∈ s.q → s.pc t = .asleep
  qN    : s.q.Nodup
  wkA   : ∀ t, t ∈ s.woken → s.pc t = .asleep
  wkN   : s.woken.Nodup
  rdA   : ∀ t, t ∈ s.ready → s.pc t = .asleep
  rdN   : s.ready.Nodup
  qw    : ∀ t, t ∈ s.q → (t ∉ s.woken ∧ t ∉ s.ready)
  wr    : ∀ t, t ∈ s.woken → t ∉ s.ready
  asl   : ∀ t, s.pc t = .asleep → t ∈ s.q ∨ t ∈ s.woken ∨ t ∈ s.ready
  -- `woken` is exactly what the unlockers at `.uc x` carry, each `x` by one unlocker
  car   : ∀ u x, s.pc u = .uc x → x ∈ s.woken
  carU  : ∀ u1 u2 x, s.pc u1 = .uc x → s.pc u2 = .uc x → u1 = u2
  wkC   : ∀ x, x ∈ s.woken → ∃ u, s.pc u = .uc x
  -- `uwf` is set exactly while the owner sits at `.uw`: it has taken 2 off the word for a waiter it has still to
  -- dequeue, which is the correction term in `acct` (`word / 2` counts the announced and the queued)
  uwO   : s.uwf = true → s.owner ≠ none
  uwP   : ∀ t, s.owner = some t → (s.uwf = true ↔ s.pc t = .uw)
  acct  : s.word / 2 + (if s.uwf = true then 1 else 0) = s.anns.length + s.q.length
  hope  : (s.q ≠ [] ∨ s.anns ≠ []) → s.owner ≠ none ∨ s.ready ≠ [] ∨ ∃ t, active (s.pc t) = true
  urOdd : ∀ t v, s.pc t = .ur v → v % 2 = 1
  trEven : ∀ t v, s.pc t = .tr v → v % 2 = 0

theorem inv_init : Inv init := by
  constructor <;> simp [init, ownsBit, active]

/-- `p'` is in the same lists as `p` (announced, asleep, carrying the same dequeued thread), and a
    word remembered at `p'` has the parity its operation expects -/
def listOk (p p' : PC) : Prop :=
  ((p' = .ann ∨ p' = .annSw) ↔ (p = .ann ∨ p = .annSw)) ∧ (p' = .asleep ↔ p = .asleep) ∧
  (∀ x, p' = .uc x ↔ p = .uc x) ∧ (∀ v, p' = .ur v → v % 2 = 1) ∧ (∀ v, p' = .tr v → v % 2 = 0)

/-- moving from `p` to `p'` is invisible to the invariant: same lists, same role towards the lock -/
def silent (p p' : PC) : Prop :=
  listOk p p' ∧ ownsBit p' = ownsBit p ∧ (p' = .uw ↔ p = .uw) ∧ (active p = true → active p' = true)

/-- A step of `t` that leaves the lists alone: the clauses about the lists carry over, only the
    clauses about word, owner and `uwf` have to be shown of the new state. -/
theorem Inv.move {s : St} (h : Inv s) (t : Tid) (p' : PC) (w : Nat) (o : Option Tid) (f : Bool)
    (hl : listOk (s.pc t) p')
    (own : ∀ u, ownsBit (upd s.pc t p' u) = true ↔ o = some u) (bit : w % 2 = 1 ↔ o ≠ none)
    (uwO : f = true → o ≠ none) (uwP : ∀ u, o = some u → (f = true ↔ upd s.pc t p' u = .uw))
    (acct : w / 2 + (if f = true then 1 else 0) = s.anns.length + s.q.length)
    (hope : (s.q ≠ [] ∨ s.anns ≠ []) → o ≠ none ∨ s.ready ≠ [] ∨ ∃ u, active (upd s.pc t p' u) = true) :
    Inv { s with word := w, pc := upd s.pc t p', owner := o, uwf := f } := by
  obtain ⟨hann, hasl, huc, hur, htr⟩ := hl
  exact { h with
    own, bit, uwO, uwP, acct, hope
    annM := by grind [h.annM, upd_apply]
    qA := by grind [h.qA, upd_apply]
    wkA := by grind [h.wkA, upd_apply]
    rdA := by grind [h.rdA, upd_apply]
    asl := by grind [h.asl, upd_apply]
    car := by grind [h.car, upd_apply]
    carU := by grind [h.carU, upd_apply]
    wkC := fun x hx => (h.wkC x hx).imp fun u hu => by grind [upd_apply]
    urOdd := by grind [h.urOdd, upd_apply]
    trEven := by grind [h.trEven, upd_apply] }

theorem Inv.pc_move {s : St} (h : Inv s) (t : Tid) (p' : PC) (hc : silent (s.pc t) p') :
    Inv { s with pc := upd s.pc t p' } := by
  obtain ⟨hl, hown, huw, hact⟩ := hc
  exact h.move t p' s.word s.owner s.uwf hl (by grind [h.own, upd_apply]) h.bit h.uwO
    (by grind [h.uwP, upd_apply]) h.acct
    (fun hq => (h.hope hq).imp_right (.imp_right fun ⟨u, hu⟩ => ⟨u, by grind [upd_apply]⟩))

theorem Inv.acquire {s : St} (h : Inv s) (t : Tid) (v : Nat) (hp : s.pc t = .lr v ∨ s.pc t = .tr v)
    (hv : v % 2 = 0) (hw : s.word = v) :
    Inv { s with word := v + 1, pc := upd s.pc t .hold, owner := some t } := by
  have hno : s.owner = none := by grind [h.bit]
  have hnuw : s.uwf = false := by grind [h.uwO]
  refine h.move t .hold _ _ _ (by grind [listOk]) ?_ (by grind) (by simp) ?_ ?_ (by simp)
  · grind [h.own, upd_apply, ownsBit]
  · grind [upd_apply]
  · grind [h.acct]

theorem Inv.lockCas2 {s : St} (h : Inv s) (t : Tid) (v : Nat) (hp : s.pc t = .lr v)
    (hv : v % 2 = 1) (hw : s.word = v) :
    Inv { s with word := v + 2, pc := upd s.pc t .ann, anns := t :: s.anns } := by
  have hna : t ∉ s.anns := by grind [h.annM]
  have hno : s.owner ≠ some t := by grind [h.own t, ownsBit]
  exact { h with
    own := by grind [h.own, upd_apply, ownsBit]
    bit := by grind [h.bit]
    annM := by grind [h.annM, upd_apply]
    annN := by grind [h.annN]
    qA := by grind [h.qA, upd_apply]
    wkA := by grind [h.wkA, upd_apply]
    rdA := by grind [h.rdA, upd_apply]
    asl := by grind [h.asl, upd_apply]
    car := by grind [h.car, upd_apply]
    carU := by grind [h.carU, upd_apply]
    wkC := fun x hx => (h.wkC x hx).imp fun u hu => by grind [upd_apply]
    uwP := by grind [h.uwP, h.own, upd_apply, ownsBit]
    acct := by grind [h.acct]
    hope := by grind [h.bit]
    urOdd := by grind [h.urOdd, upd_apply]
    trEven := by grind [h.trEven, upd_apply] }

theorem Inv.unlockCas2 {s : St} (h : Inv s) (t : Tid) (v : Nat) (hp : s.pc t = .ur v) (hv : v > 1)
    (hw : s.word = v) : Inv { s with word := v - 2, pc := upd s.pc t .uw, uwf := true } := by
  have hodd := h.urOdd t v hp
  have hot : s.owner = some t := (h.own t).mp (by simp [hp, ownsBit])
  have huw : s.uwf = false := by grind [h.uwP t hot]
  refine h.move t .uw _ _ _ (by grind [listOk]) ?_ ?_ (by simp [hot]) ?_ ?_ (by simp [hot])
  · grind [h.own, upd_apply, ownsBit]
  · grind [h.bit]
  · grind [upd_apply]
  · grind [h.acct]

theorem Inv.unlockCas0 {s : St} (h : Inv s) (t : Tid) (hp : s.pc t = .ur 1) (hw : s.word = 1) :
    Inv { s with word := 0, pc := upd s.pc t .idle, owner := none } := by
  have hot : s.owner = some t := (h.own t).mp (by simp [hp, ownsBit])
  have huw : s.uwf = false := by grind [h.uwP t hot]
  -- the word counts the waiters: none are left, so nobody needs hope
  have hz : s.anns.length + s.q.length = 0 := by rw [← h.acct, hw, huw]; simp
  have hq : s.q = [] := List.eq_nil_of_length_eq_zero (by omega)
  have ha : s.anns = [] := List.eq_nil_of_length_eq_zero (by omega)
  refine h.move t .idle _ _ _ (by grind [listOk]) ?_ (by simp) (by simp [huw]) (by simp)
    (by simp [huw, hq, ha]) (by simp [hq, ha])
  grind [h.own, upd_apply, ownsBit]

theorem Inv.cbEnq {s : St} (h : Inv s) (t : Tid) (hp : s.pc t = .annSw) :
    Inv { s with q := s.q ++ [t], pc := upd s.pc t .asleep, anns := s.anns.erase t } := by
  have hm : t ∈ s.anns := (h.annM t).mpr (.inr hp)
  have hno : s.owner ≠ some t := by grind [h.own t, ownsBit]
  exact { h with
    own := by grind [h.own, upd_apply, ownsBit]
    annM := by grind [h.annM, h.annN, upd_apply, List.Nodup.mem_erase_iff]
    annN := h.annN.erase t
    qA := by grind [h.qA, upd_apply]
    qN := by grind [h.qN, h.qA t, List.nodup_append]
    wkA := by grind [h.wkA, upd_apply]
    rdA := by grind [h.rdA, upd_apply]
    qw := by grind [h.qw, h.wkA t, h.rdA t]
    asl := by grind [h.asl, upd_apply]
    car := by grind [h.car, upd_apply]
    carU := by grind [h.carU, upd_apply]
    wkC := fun x hx => (h.wkC x hx).imp fun u hu => by grind [upd_apply]
    uwP := by grind [h.uwP, upd_apply]
    acct := by grind [h.acct, List.length_erase_of_mem]
    hope := by
      intro _
      rcases h.hope (.inr (List.ne_nil_of_mem hm)) with ho | hr | ⟨u, hu⟩
      · exact .inl ho
      · exact .inr (.inl hr)
      · exact .inr (.inr ⟨u, by grind [upd_apply, active]⟩)
    urOdd := by grind [h.urOdd, upd_apply]
    trEven := by grind [h.trEven, upd_apply] }

theorem Inv.wakeDeq {s : St} (h : Inv s) (t x : Tid) (r : List Tid) (hp : s.pc t = .uw) (hq : s.q = x :: r) :
    Inv { s with q := r, pc := upd s.pc t (.uc x), woken := x :: s.woken, uwf := false } := by
  have hot : s.owner = some t := (h.own t).mp (by simp [hp, ownsBit])
  have hqN := h.qN
  have hqA := h.qA
  have hqw := h.qw
  rw [hq] at hqN hqA hqw
  have hxt : x ≠ t := by grind
  have hxw : x ∉ s.woken := (hqw x (by simp)).1
  exact { h with
    own := by grind [h.own, upd_apply, ownsBit]
    annM := by grind [h.annM, upd_apply]
    qA := by grind [upd_apply]
    qN := by grind
    wkA := by grind [h.wkA, upd_apply]
    wkN := by grind [h.wkN]
    rdA := by grind [h.rdA, upd_apply]
    qw := by grind
    wr := by grind [h.wr]
    asl := by grind [h.asl, upd_apply]
    car := by grind [h.car, upd_apply]
    carU := by grind [h.carU, h.car, upd_apply]
    wkC := by
      intro y hy
      rcases List.mem_cons.mp hy with rfl | hy
      · exact ⟨t, by simp⟩
      · exact (h.wkC y hy).imp fun u hu => by grind [upd_apply]
    uwO := by simp
    uwP := by grind [upd_apply]
    acct := by grind [h.acct, h.uwP t hot]
    hope := by grind
    urOdd := by grind [h.urOdd, upd_apply]
    trEven := by grind [h.trEven, upd_apply] }

theorem Inv.clearBit {s : St} (h : Inv s) (t x : Tid) (hp : s.pc t = .uc x) (hw : s.word % 2 = 1) :
    Inv { s with word := s.word - 1, pc := upd s.pc t .idle, owner := none,
                 woken := s.woken.erase x, ready := x :: s.ready } := by
  have hot : s.owner = some t := (h.own t).mp (by simp [hp, ownsBit])
  have huw : s.uwf = false := by grind [h.uwP t hot]
  have hxw : x ∈ s.woken := h.car t x hp
  have hxt : x ≠ t := by grind [h.wkA x hxw]
  exact { h with
    own := by grind [h.own, upd_apply, ownsBit]
    bit := by grind
    annM := by grind [h.annM, upd_apply]
    qA := by grind [h.qA, upd_apply]
    wkA := by grind [h.wkA, upd_apply, List.mem_of_mem_erase]
    wkN := h.wkN.erase x
    rdA := by grind [h.rdA, h.wkA, upd_apply]
    rdN := by grind [h.rdN, h.wr]
    qw := by grind [h.qw, List.mem_of_mem_erase]
    wr := by grind [h.wr, h.wkN, List.Nodup.mem_erase_iff]
    asl := by grind [h.asl, h.wkN, upd_apply, List.Nodup.mem_erase_iff]
    car := by grind [h.car, h.carU, h.wkN, upd_apply, List.Nodup.mem_erase_iff]
    carU := by grind [h.carU, upd_apply]
    wkC := fun y hy => (h.wkC y (List.mem_of_mem_erase hy)).imp fun u hu => by
      grind [h.wkN, upd_apply, List.Nodup.mem_erase_iff]
    uwO := by simp [huw]
    uwP := by simp
    acct := by grind [h.acct]
    hope := by simp
    urOdd := by grind [h.urOdd, upd_apply]
    trEven := by grind [h.trEven, upd_apply] }

theorem Inv.wakePush {s : St} (h : Inv s) (x : Tid) (hx : x ∈ s.ready) :
    Inv { s with pc := upd s.pc x .lretry, ready := s.ready.erase x } := by
  have hp : s.pc x = .asleep := h.rdA x hx
  have hno : s.owner ≠ some x := by grind [h.own x, ownsBit]
  have hxq : x ∉ s.q := fun hq => (h.qw x hq).2 hx
  have hxw : x ∉ s.woken := fun hw => h.wr x hw hx
  exact { h with
    own := by grind [h.own, upd_apply, ownsBit]
    annM := by grind [h.annM, upd_apply]
    qA := by grind [h.qA, upd_apply]
    wkA := by grind [h.wkA, upd_apply]
    rdA := by grind [h.rdA, h.rdN, upd_apply, List.Nodup.mem_erase_iff]
    rdN := h.rdN.erase x
    qw := by grind [h.qw, List.mem_of_mem_erase]
    wr := by grind [h.wr, List.mem_of_mem_erase]
    asl := by grind [h.asl, h.rdN, upd_apply, List.Nodup.mem_erase_iff]
    car := by grind [h.car, upd_apply]
    carU := by grind [h.carU, upd_apply]
    wkC := fun y hy => (h.wkC y hy).imp fun u hu => by grind [upd_apply]
    uwP := by grind [h.uwP, upd_apply]
    hope := fun _ => .inr (.inr ⟨x, by simp [active]⟩)
    urOdd := by grind [h.urOdd, upd_apply]
    trEven := by grind [h.trEven, upd_apply] }

theorem Inv.owner_iff {s : St} (hi : Inv s) : s.owner ≠ none ↔ ∃ t, ownsBit (s.pc t) = true := by
  constructor
  · intro hn
    cases ho : s.owner with
    | none => exact absurd ho hn
    | some t => exact ⟨t, (hi.own t).mpr ho⟩
  · rintro ⟨t, ht⟩ hn
    have := (hi.own t).mp ht
    rw [hn] at this; cases this

end MythVerif.Mutex
