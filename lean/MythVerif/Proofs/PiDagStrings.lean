import MythVerif.Proofs.PiDagLayout
/-! The string table (`dr_string_table_intern`), and the string-table part of well-formedness for
every `flatten`: all file indices are inside the table and the table has no duplicates. -/
namespace MythVerif.PiDag
open MythVerif.DagRec

theorem intern_cases (st : List Nat) (f : Nat) :
    (f ∈ st ∧ intern st f = (st, st.idxOf f)) ∨ (f ∉ st ∧ intern st f = (st ++ [f], st.length)) := by
  unfold intern
  by_cases h : f ∈ st
  · left
    have := List.idxOf_lt_length_of_mem h
    refine ⟨h, ?_⟩
    simp only [Prod.mk.injEq, and_true]
    rw [if_neg (by omega)]
  · right
    have := List.idxOf_eq_length h
    exact ⟨h, by simp [this]⟩

theorem intern_nodup (st : List Nat) (f : Nat) (h : st.Nodup) : (intern st f).1.Nodup := by
  rcases intern_cases st f with ⟨_, e⟩ | ⟨hn, e⟩ <;> rw [e]
  · exact h
  · simp only [List.nodup_append, List.nodup_cons, List.not_mem_nil, not_false_eq_true, List.nodup_nil,
      and_self, List.mem_cons, or_false, true_and]
    exact ⟨h, fun a ha b hb => by subst hb; exact fun e => hn (e ▸ ha)⟩

theorem intern_prefix (st : List Nat) (f : Nat) : ∃ r, (intern st f).1 = st ++ r := by
  rcases intern_cases st f with ⟨_, e⟩ | ⟨_, e⟩ <;> rw [e]
  · exact ⟨[], by simp⟩
  · exact ⟨[f], rfl⟩

/-- the index returned names `f` in the new table -/
theorem intern_get (st : List Nat) (f : Nat) : (intern st f).1[(intern st f).2]? = some f := by
  rcases intern_cases st f with ⟨hm, e⟩ | ⟨_, e⟩ <;> rw [e]
  · have hl := List.idxOf_lt_length_of_mem hm
    simp only
    rw [List.getElem?_eq_getElem hl, List.getElem_idxOf hl]
  · simp

theorem internAll_spec (names : List Nat) : ∀ (st : List Nat), st.Nodup →
    (internAll st names).1.Nodup ∧ (∃ r, (internAll st names).1 = st ++ r) ∧
    (internAll st names).2.length = names.length ∧
    ∀ k (hk : k < names.length), (internAll st names).1[((internAll st names).2)[k]!]? = some names[k] := by
  induction names with
  | nil => intro st h; exact ⟨h, ⟨[], by simp [internAll]⟩, rfl, fun k hk => absurd hk (by simp)⟩
  | cons f fs ih =>
    intro st h
    have h1 := intern_nodup st f h
    obtain ⟨r1, e1⟩ := intern_prefix st f
    obtain ⟨g1, ⟨r2, e2⟩, g3, g4⟩ := ih (intern st f).1 h1
    simp only [internAll]
    refine ⟨g1, ⟨r1 ++ r2, by rw [e2, e1, List.append_assoc]⟩, by simp [g3], ?_⟩
    intro k hk
    cases k with
    | zero =>
      simp only [List.getElem!_cons_zero, List.getElem_cons_zero]
      have := intern_get st f
      rw [e2]
      rw [List.getElem?_append_left]
      · exact this
      · have : ((intern st f).1)[(intern st f).2]? ≠ none := by rw [this]; simp
        exact (List.getElem?_eq_some_iff.mp (Option.ne_none_iff_exists'.mp this).choose_spec).1
    | succ k =>
      simp only [List.length_cons] at hk
      simpa using g4 k (by omega)

/-! ### the table built while the nodes are enumerated -/

/-- all slots refer into the table `st`, which has no duplicates -/
def StrOK (T : Array PNode) (st : List Nat) : Prop :=
  st.Nodup ∧ ∀ j, j < T.size → T[j]!.info.c.start.pos.file < st.length ∧ T[j]!.info.c.end_.pos.file < st.length

theorem intern_idx_lt (st : List Nat) (f : Nat) : (intern st f).2 < (intern st f).1.length :=
  (List.getElem?_eq_some_iff.mp (intern_get st f)).1

theorem intern_len_le (st : List Nat) (f : Nat) : st.length ≤ (intern st f).1.length := by
  obtain ⟨r, e⟩ := intern_prefix st f
  rw [e]; simp

/-- interning two names in turn: the table stays duplicate free and only grows, both indices are inside it -/
theorem intern_two (st : List Nat) (f1 f2 : Nat) (h : st.Nodup) :
    (intern (intern st f1).1 f2).1.Nodup ∧ st.length ≤ (intern (intern st f1).1 f2).1.length ∧
    (intern st f1).2 < (intern (intern st f1).1 f2).1.length ∧
    (intern (intern st f1).1 f2).2 < (intern (intern st f1).1 f2).1.length := by
  have l1 := intern_len_le st f1
  have l2 := intern_len_le (intern st f1).1 f2
  have i1 := intern_idx_lt st f1
  exact ⟨intern_nodup _ f2 (intern_nodup st f1 h), by omega, by omega, intern_idx_lt _ f2⟩

theorem strOK_push' (T : Array PNode) (st st' : List Nat) (x : PNode) (h : StrOK T st) (hnd : st'.Nodup)
    (hle : st.length ≤ st'.length) (h1 : x.info.c.start.pos.file < st'.length) (h2 : x.info.c.end_.pos.file < st'.length) :
    StrOK (T.push x) st' := by
  refine ⟨hnd, fun j hj => ?_⟩
  simp only [Array.size_push] at hj
  by_cases hlt : j < T.size
  · rw [push_get_lt _ _ _ hlt]
    have := h.2 j hlt
    omega
  · have : j = T.size := by omega
    subst this
    rw [push_get_eq]
    exact ⟨h1, h2⟩

theorem strOK_push (sc : Nat) (T : Array PNode) (st : List Nat) (i : Info) (h : StrOK T st) :
    StrOK (T.push (copyNode sc st i).1) (copyNode sc st i).2 := by
  obtain ⟨c1, c2, c3, c4⟩ := intern_two st i.c.start.pos.file i.c.end_.pos.file h.1
  exact strOK_push' _ st _ _ h c1 c2 c3 c4

theorem strOK_modify (T : Array PNode) (st : List Nat) (idx : Nat) (f : PNode → PNode)
    (hf : ∀ x, (f x).info = x.info) (h : StrOK T st) : StrOK (T.modify idx f) st := by
  refine ⟨h.1, fun j hj => ?_⟩
  rw [modify_info _ _ _ _ hf]
  exact h.2 j (by simpa using hj)

theorem pushAll_strOK (sc : Nat) : ∀ (ds : DList) (s : FlatSt), StrOK s.T s.st →
    StrOK (pushAll sc ds s).T (pushAll sc ds s).st
  | .nil, s, h => h
  | .cons d r, s, h => by
    simp only [pushAll]
    exact pushAll_strOK sc r _ (strOK_push sc s.T s.st d.info h)

mutual
theorem flatNode_strOK (sc : Nat) : ∀ (d : DNode) (idx : Nat) (s : FlatSt), StrOK s.T s.st →
    StrOK (flatNode sc d idx s).T (flatNode sc d idx s).st
  | .ival _, _, s, h => h
  | .create i ch, idx, s, h => by
    simp only [flatNode]
    exact flatNode_strOK sc ch _ _ (strOK_modify _ _ _ _ (fun _ => rfl) (strOK_push sc s.T s.st ch.info h))
  | .group i ds, idx, s, h => by
    simp only [flatNode]
    exact flatList_strOK sc ds _ _ (strOK_modify _ _ _ _ (fun _ => rfl) (pushAll_strOK sc ds s h))
theorem flatList_strOK (sc : Nat) : ∀ (ds : DList) (k : Nat) (s : FlatSt), StrOK s.T s.st →
    StrOK (flatList sc ds k s).T (flatList sc ds k s).st
  | .nil, _, s, h => h
  | .cons d r, k, s, h => by
    simp only [flatList]
    exact flatList_strOK sc r _ _ (flatNode_strOK sc d k s h)
end

theorem enumNodes_strOK (sc : Nat) (d : DNode) : StrOK (enumNodes sc d).T (enumNodes sc d).st := by
  have h0 : StrOK #[(copyNode sc [] d.info).1] (copyNode sc [] d.info).2 := by
    simpa using strOK_push sc #[] [] d.info ⟨List.nodup_nil, fun j hj => by simp at hj⟩
  exact flatNode_strOK sc d 0 _ h0

theorem finishDag_wfStrings (T : Array PNode) (st : List Nat) (nw : Nat) (h : StrOK T st) :
    wfStrings (finishDag T st nw) = true := by
  have hs := setEdgePtrs_spec T (sortEdges (enumEdges T))
  unfold wfStrings finishDag
  simp only [Bool.and_eq_true, decide_eq_true_eq]
  refine ⟨?_, h.1⟩
  rw [Array.all_eq_true]
  intro j hj
  have e := hs.2 j
  rw [getElem!_pos _ j hj] at e
  simpa [e] using h.2 j (by rw [← hs.1]; exact hj)

/-- the string-table conjunct of `wellFormed` holds for every dump -/
theorem flatten_wfStrings (sc nw : Nat) (d : DNode) : wfStrings (flatten sc nw d) = true :=
  finishDag_wfStrings _ _ nw (enumNodes_strOK sc d)

end MythVerif.PiDag
