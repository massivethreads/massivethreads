import MythVerif.Model.Bulk
/-! helper lemmas for C17: fork-join schedules, the recursion of the bulk helpers -/
namespace MythVerif.Bulk

theorem Interleave.perm {ε : Type} {l r m : List ε} (h : Interleave l r m) : m.Perm (l ++ r) := by
  induction h with
  | nil => exact List.Perm.refl _
  | left _ ih => exact List.Perm.cons _ ih
  | right _ ih =>
    rename_i x l r m _
    exact (List.Perm.cons x ih).trans (List.perm_middle.symm)

theorem Interleave.append {ε : Type} (l r : List ε) : Interleave l r (l ++ r) := by
  induction l with
  | nil =>
    induction r with
    | nil => exact .nil
    | cons x r ih => exact .right ih
  | cons x l ih => exact .left ih

/-- every schedule executes exactly the effects of the one-worker order (as a multiset) -/
theorem Sched.perm {ε : Type} {t : FJ ε} {s : List ε} (h : Sched t s) : s.Perm t.seq := by
  induction h with
  | leaf es => exact List.Perm.refl _
  | fork _ _ hi ihl ihr =>
    simp only [FJ.seq]
    refine List.Perm.append ?_ (List.Perm.refl _)
    rw [List.append_assoc]
    exact List.Perm.append (List.Perm.refl _) (hi.perm.trans (List.Perm.append ihl ihr))

/-- the one-worker order is a schedule -/
theorem Sched.of_seq {ε : Type} (t : FJ ε) : Sched t t.seq := by
  induction t with
  | leaf es => exact .leaf es
  | fork pre l r post ihl ihr =>
    simp only [FJ.seq]
    have := Sched.fork (pre := pre) (post := post) ihl ihr (Interleave.append _ _)
    simpa [List.append_assoc] using this

/-- what follows the join follows everything of both sides, what precedes the creation
    precedes it -/
theorem Sched.fork_inv {ε : Type} {pre post : List ε} {l r : FJ ε} {s : List ε}
    (h : Sched (.fork pre l r post) s) :
    ∃ m, s = pre ++ m ++ post ∧ m.Perm (l.seq ++ r.seq) := by
  cases h with
  | fork hl hr hi => exact ⟨_, rfl, hi.perm.trans (List.Perm.append hl.perm hr.perm)⟩

theorem item_all_isItem (p : Params) (a : Nat) : (item p a).filter Eff.isItem = item p a := by
  unfold item
  cases p.ids <;> cases p.results <;> simp [Eff.isItem]

theorem auxF_mono_le (p : Params) : ∀ (fuel fuel' a b : Nat) (t : FJ Eff), fuel ≤ fuel' →
    auxF p fuel a b = some t → auxF p fuel' a b = some t := by
  intro fuel
  induction fuel with
  | zero => intro _ a b t _ h; cases h
  | succ n ih =>
    intro fuel' a b t hle h
    obtain ⟨m, rfl⟩ : ∃ m, fuel' = m + 1 := ⟨fuel' - 1, by omega⟩
    simp only [auxF] at h ⊢
    split at h
    · rwa [if_pos ‹_›]
    · rw [if_neg ‹_›]
      split at h
      · rename_i hl hr
        simp only [ih m _ _ _ (by omega) hl, ih m _ _ _ (by omega) hr]
        exact h
      · cases h

/-- the result does not depend on the fuel -/
theorem auxF_unique (p : Params) (f1 f2 a b : Nat) (t1 t2 : FJ Eff)
    (h1 : auxF p f1 a b = some t1) (h2 : auxF p f2 a b = some t2) : t1 = t2 := by
  have a1 := auxF_mono_le p f1 (max f1 f2) a b t1 (Nat.le_max_left _ _) h1
  have a2 := auxF_mono_le p f2 (max f1 f2) a b t2 (Nat.le_max_right _ _) h2
  rw [a1] at a2; exact Option.some.inj a2

/-- items of `[a,b)` in loop order -/
def items (p : Params) (a b : Nat) : List Eff := (List.range' a (b - a)).flatMap (item p)

theorem items_split (p : Params) (a c b : Nat) (h1 : a ≤ c) (h2 : c ≤ b) :
    items p a c ++ items p c b = items p a b := by
  unfold items
  rw [← List.flatMap_append]
  congr 1
  have := @List.range'_append a (c - a) (b - c) 1
  simp only [Nat.one_mul] at this
  rw [show a + (c - a) = c by omega, show c - a + (b - c) = b - a by omega] at this
  exact this

/-- **termination and result of the divide-and-conquer**: on a non-empty `[a,b)` the recursion
    finishes within fuel `b - a`, creates `b - a - 1` threads and its one-worker order performs
    exactly the item effects of the sequential loop over `[a,b)`, in loop order -/
theorem auxF_spec (p : Params) : ∀ (fuel a b : Nat), a < b → b - a ≤ fuel →
    ∃ t, auxF p fuel a b = some t ∧ t.seq.filter Eff.isItem = items p a b ∧
      t.forks = b - a - 1 := by
  intro fuel
  induction fuel with
  | zero => intro a b h1 h2; omega
  | succ n ih =>
    intro a b hab hf
    unfold auxF
    by_cases h1 : b - a = 1
    · rw [if_pos h1]
      refine ⟨_, rfl, ?_, by simp [FJ.forks, h1]⟩
      simp only [FJ.seq, item_all_isItem, items, h1]
      simp [List.range']
    · rw [if_neg h1]
      have hc1 : a < (a + b) / 2 := by omega
      have hc2 : (a + b) / 2 < b := by omega
      obtain ⟨l, hl, hls, hlf⟩ := ih a ((a + b) / 2) hc1 (by omega)
      obtain ⟨r, hr, hrs, hrf⟩ := ih ((a + b) / 2) b hc2 (by omega)
      simp only [hl, hr]
      refine ⟨_, rfl, ?_, ?_⟩
      · simp only [FJ.seq, List.filter_append, hls, hrs]
        simp only [List.filter, Eff.isItem, List.nil_append, List.append_nil]
        exact items_split p a _ b (by omega) (by omega)
      · simp only [FJ.forks, hlf, hrf]; omega

/-- the pinned shape of the recursion has no base case for an empty range: `[a,a)` exhausts
    every fuel (not reachable from `myth_create_join_various_ex_body`, which tests `n == 0`) -/
theorem auxF_empty_diverges (p : Params) : ∀ (fuel a : Nat), auxF p fuel a a = none := by
  intro fuel
  induction fuel with
  | zero => intro a; rfl
  | succ n ih =>
    intro a
    unfold auxF
    have : (a + a) / 2 = a := by omega
    simp [this, ih]

theorem written_item (p : Params) (a : Nat) :
    (item p a).filterMap Eff.written =
      (match p.ids with | some ids => [ids + a * p.idStride] | none => []) ++
      (match p.results with | some res => [res + a * p.resStride] | none => []) := by
  unfold item
  cases p.ids <;> cases p.results <;> simp [Eff.written, List.filterMap]

/-- an observation that ignores the structural events sees only the item effects -/
theorem filterMap_items {β : Type} (g : Eff → Option β) (hg : ∀ e, e.isItem = false → g e = none)
    (es : List Eff) : es.filterMap g = (es.filter Eff.isItem).filterMap g := by
  induction es with
  | nil => rfl
  | cons e es ih =>
    cases he : e.isItem with
    | true => simp [List.filter, List.filterMap, he, ih]
    | false => simp [List.filter, List.filterMap, he, hg e he, ih]

theorem resAddr_nonitem : ∀ e : Eff, e.isItem = false → e.resAddr = none := by
  intro e; cases e <;> simp [Eff.isItem, Eff.resAddr]
theorem idAddr_nonitem : ∀ e : Eff, e.isItem = false → e.idAddr = none := by
  intro e; cases e <;> simp [Eff.isItem, Eff.idAddr]
theorem callOf_nonitem : ∀ e : Eff, e.isItem = false → e.callOf = none := by
  intro e; cases e <;> simp [Eff.isItem, Eff.callOf]
theorem written_nonitem' : ∀ e : Eff, e.isItem = false → e.written = none := by
  intro e; cases e <;> simp [Eff.isItem, Eff.written]

theorem written_nonitem (es : List Eff) :
    es.filterMap Eff.written = (es.filter Eff.isItem).filterMap Eff.written :=
  filterMap_items _ written_nonitem' es

/-- in every schedule of a structure whose one-worker order has the item effects `L`, an
    item-only observation sees a permutation of what it sees on `L` -/
theorem Sched.observe {β : Type} (g : Eff → Option β) (hg : ∀ e, e.isItem = false → g e = none)
    {t : FJ Eff} {s L : List Eff} (hs : Sched t s) (hL : t.seq.filter Eff.isItem = L) :
    (s.filterMap g).Perm (L.filterMap g) := by
  rw [filterMap_items g hg s, ← hL]
  exact (hs.perm.filter _).filterMap _

theorem loop_resAddr (p : Params) (n : Nat) :
    (loop p n).filterMap Eff.resAddr =
      match p.results with
      | some r => (List.range n).map fun i => r + i * p.resStride
      | none => [] := by
  simp only [loop, List.filterMap_flatMap, item]
  cases p.ids <;> cases p.results <;> simp [Eff.resAddr, List.filterMap, List.map_eq_flatMap]

theorem loop_idAddr (p : Params) (n : Nat) :
    (loop p n).filterMap Eff.idAddr =
      match p.ids with
      | some r => (List.range n).map fun i => r + i * p.idStride
      | none => [] := by
  simp only [loop, List.filterMap_flatMap, item]
  cases p.ids <;> cases p.results <;> simp [Eff.idAddr, List.filterMap, List.map_eq_flatMap]

theorem loop_callOf (p : Params) (n : Nat) :
    (loop p n).filterMap Eff.callOf =
      (List.range n).map fun i => (p.funcs + i * p.funcStride, p.args + i * p.argStride) := by
  simp only [loop, List.filterMap_flatMap, item]
  cases p.ids <;> cases p.results <;> simp [Eff.callOf, List.filterMap, List.map_eq_flatMap]

/-- strided slots with a positive stride are pairwise distinct: each is hit exactly once -/
theorem count_strided (r stride n i : Nat) (hs : 0 < stride) (hi : i < n) :
    ((List.range n).map fun j => r + j * stride).count (r + i * stride) = 1 := by
  have hnd : ((List.range n).map fun j => r + j * stride).Nodup := by
    apply List.Pairwise.map _ _ List.nodup_range
    intro a b hab h
    apply hab
    have : a * stride = b * stride := by omega
    exact Nat.eq_of_mul_eq_mul_right hs this
  rw [hnd.count, if_pos]
  exact List.mem_map.mpr ⟨i, List.mem_range.mpr hi, rfl⟩

theorem variousF_spec (p : Params) (n fuel : Nat) (t : FJ Eff) (h : variousF p fuel n = some t) :
    t.seq.filter Eff.isItem = loop p n ∧ t.forks = n - 1 := by
  unfold variousF at h
  by_cases hn : n = 0
  · rw [if_pos hn] at h
    cases h
    subst hn
    simp [FJ.seq, loop, FJ.forks]
  · rw [if_neg hn] at h
    obtain ⟨t', ht', hs, hf⟩ := auxF_spec p n 0 n (by omega) (by omega)
    have := auxF_unique p fuel n 0 n t t' h ht'
    subst this
    refine ⟨?_, by simpa using hf⟩
    rw [hs, items, loop, Nat.sub_zero, List.range_eq_range']

/-- any fuel from `n` on lets `variousF` return, and what it returns does not depend on the fuel -/
theorem variousF_terminates (p : Params) (n fuel : Nat) (hf : n ≤ fuel) :
    ∃ t, variousF p fuel n = some t ∧ ∀ fuel' t', variousF p fuel' n = some t' → t' = t := by
  unfold variousF
  by_cases hn : n = 0
  · simp only [hn, if_true]
    exact ⟨_, rfl, fun _ _ h => (Option.some.inj h).symm⟩
  · simp only [hn, if_false]
    obtain ⟨t, ht, _⟩ := auxF_spec p fuel 0 n (by omega) (by omega)
    exact ⟨t, ht, fun fuel' t' h => auxF_unique p _ _ 0 n t' t h ht⟩

end MythVerif.Bulk
