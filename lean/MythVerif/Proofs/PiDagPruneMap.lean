import MythVerif.Proofs.PiDagFlattenCert
/-! Step 1 of `dr_pi_dag_copy_and_prune_nodes` (`pruneMap`): for every node array whose child
relation is a tree (every slot but the root has exactly one parent, which lies before it) the index
map numbers the kept slots consecutively; the root is kept, and a child is kept iff its parent is
kept and copies its children.  Every node array that passes the `offsets` check is such a tree. -/
namespace MythVerif.PiDag

/-- the body of the loop of step 1 -/
def pruneMapStep (o : ShrinkOpts) (T : Array PNode) (acc : Array Int × Nat) (i : Nat) : Array Int × Nat :=
  let (map, n_) := acc
  let t := T[i]!
  let isCopy := map[i]! == mapCopy
  let (map, n_) := if isCopy then (map.set! i (n_ : Int), n_ + 1) else (map, n_)
  let cc := isCopy && (t.info.c.kind == .createTask || (isGroupK t.info.c.kind && copyChildren o t))
  let mark := if cc then mapCopy else mapNoCopy
  if t.info.c.kind == .createTask then
    (map.set! (i + t.a) mark, n_)
  else if isGroupK t.info.c.kind then
    ((List.range (t.b - t.a)).foldl (fun m k => m.set! (i + t.a + k) mark) map, n_)
  else (map, n_)

theorem pruneMap_eq (o : ShrinkOpts) (T : Array PNode) :
    pruneMap o T = (List.range T.size).foldl (pruneMapStep o T) ((Array.replicate T.size mapInit).set! 0 mapCopy, 0) := rfl

/-- does the (copied) node at `g` copy its children -/
def ccT (o : ShrinkOpts) (T : Array PNode) (g : Nat) : Bool :=
  T[g]!.info.c.kind == .createTask || (isGroupK T[g]!.info.c.kind && copyChildren o T[g]!)

/-- number of slots below `j` that received a new index -/
def cntK (map : Array Int) (j : Nat) : Nat := rsum j (fun x => if 0 ≤ map[x]! then 1 else 0)

theorem cntK_succ (map : Array Int) (j : Nat) : cntK map (j + 1) = cntK map j + (if 0 ≤ map[j]! then 1 else 0) := by
  simp [cntK, rsum_succ]

theorem cntK_congr (m m' : Array Int) (j : Nat) (h : ∀ x < j, m'[x]! = m[x]!) : cntK m' j = cntK m j := by
  apply rsum_congr
  intro x hx; rw [h x hx]

theorem ind_le_one (T : Array PNode) (g j : Nat) : ind T g j ≤ 1 := by
  unfold ind; simp only; repeat' split
  all_goals omega

/-- the child relation of `T` is a tree rooted at slot 0 -/
structure TreeLike (T : Array PNode) : Prop where
  pos : 0 < T.size
  par : ∀ j, j < T.size → rsum T.size (fun g => ind T g j) = if j = 0 then 0 else 1
  lt : ∀ g c, g < T.size → ind T g c = 1 → g < c

theorem TreeLike.par_below {T : Array PNode} (h : TreeLike T) (j : Nat) (hj : j < T.size) (h0 : j ≠ 0) :
    ∃ g, g < j ∧ ind T g j = 1 := by
  have hp := h.par j hj
  rw [if_neg h0] at hp
  obtain ⟨g, hg, hne⟩ := rsum_pos_ex _ _ (by rw [hp]; omega)
  have := ind_le_one T g j
  have h1 : ind T g j = 1 := by omega
  exact ⟨g, h.lt g j hg h1, h1⟩

theorem TreeLike.unique {T : Array PNode} (h : TreeLike T) (g g' j : Nat) (hg : g < T.size) (hg' : g' < T.size)
    (hj : j < T.size) (h1 : ind T g j = 1) (h2 : ind T g' j = 1) : g = g' := by
  apply Classical.byContradiction
  intro hne
  have hp := h.par j hj
  have hle : rsum T.size (fun x => ind T x j) ≤ 1 := by rw [hp]; split <;> omega
  -- two different terms equal to one
  rcases Nat.lt_or_gt_of_ne hne with hlt | hlt
  · have a1 := rsum_term_le g' g hlt (fun x => ind T x j)
    have a2 := rsum_mono (fun x => ind T x j) (g' + 1) T.size (by omega)
    rw [rsum_succ] at a2
    omega
  · have a1 := rsum_term_le g g' hlt (fun x => ind T x j)
    have a2 := rsum_mono (fun x => ind T x j) (g + 1) T.size (by omega)
    rw [rsum_succ] at a2
    omega

/-- a node array that passes the `offsets` check is a tree -/
theorem treeLike_of_wfOffsets (G : PiDag) (h : wfOffsets G = true) : TreeLike G.T := by
  rw [wfOffsets_eq] at h
  simp only [Bool.and_eq_true, decide_eq_true_eq, List.all_eq_true, List.mem_range, beq_iff_eq] at h
  refine ⟨h.1, fun j hj => by rw [← coverArr_get G.T j hj]; exact (h.2 j hj).2, fun g c hg hgc => ?_⟩
  have hoff := (h.2 g hg).1
  unfold offLocal at hoff
  unfold ind at hgc
  simp only at hoff hgc
  split at hgc
  · rename_i hk
    simp only [hk, if_true, Bool.and_eq_true, decide_eq_true_eq] at hoff
    split at hgc <;> omega
  · split at hgc
    · rename_i hk hg'
      simp only [hk, hg', if_true, Bool.false_eq_true, if_false, Bool.or_eq_true, Bool.and_eq_true,
        decide_eq_true_eq, beq_iff_eq] at hoff
      split at hgc <;> omega
    · omega

theorem treeLike_of_wf (G : PiDag) (h : wellFormed G = true) : TreeLike G.T :=
  treeLike_of_wfOffsets G (by simp only [wellFormed, wfReport, Bool.and_eq_true] at h; exact h.1.1.1.1.1.1)

/-! ### one step of the loop -/

/-- the mark the children of `i` receive -/
def markOf (o : ShrinkOpts) (T : Array PNode) (isCopy : Bool) (i : Nat) : Int :=
  if (isCopy && ccT o T i) = true then mapCopy else mapNoCopy

theorem pruneMapStep_spec (o : ShrinkOpts) (T : Array PNode) (map : Array Int) (n_ i : Nat) (hi : i < map.size) :
    (pruneMapStep o T (map, n_) i).1.size = map.size ∧
    (pruneMapStep o T (map, n_) i).2 = n_ + (if map[i]! == mapCopy then 1 else 0) ∧
    ∀ j, j < map.size → (pruneMapStep o T (map, n_) i).1[j]! =
      if ind T i j = 1 then markOf o T (map[i]! == mapCopy) i
      else if j = i ∧ (map[i]! == mapCopy) = true then (n_ : Int) else map[j]! := by
  -- the map after the renumbering of slot `i`
  have hm1 : ∀ j, j < map.size →
      (if (map[i]! == mapCopy) = true then (map.set! i (n_ : Int), n_ + 1) else (map, n_)).1[j]! =
        if j = i ∧ (map[i]! == mapCopy) = true then (n_ : Int) else map[j]! := by
    intro j hj
    by_cases hc : (map[i]! == mapCopy) = true
    · simp only [hc, if_true, and_true]
      by_cases hji : j = i
      · subst hji; rw [set!_get!_eq _ _ _ hj]; simp
      · rw [set!_get!_ne _ _ _ _ (fun e => hji e.symm)]; simp [hji]
    · simp [hc]
  have hs1 : (if (map[i]! == mapCopy) = true then (map.set! i (n_ : Int), n_ + 1) else (map, n_)).1.size = map.size := by
    split <;> simp
  have hn1 : (if (map[i]! == mapCopy) = true then (map.set! i (n_ : Int), n_ + 1) else (map, n_)).2 =
      n_ + (if map[i]! == mapCopy then 1 else 0) := by
    split <;> simp
  generalize hM : (if (map[i]! == mapCopy) = true then (map.set! i (n_ : Int), n_ + 1) else (map, n_)) = M at hm1 hs1 hn1
  have hstep : pruneMapStep o T (map, n_) i =
      (if T[i]!.info.c.kind == .createTask then (M.1.set! (i + T[i]!.a) (markOf o T (map[i]! == mapCopy) i), M.2)
       else if isGroupK T[i]!.info.c.kind then
         ((List.range (T[i]!.b - T[i]!.a)).foldl (fun m k => m.set! (i + T[i]!.a + k) (markOf o T (map[i]! == mapCopy) i)) M.1, M.2)
       else (M.1, M.2)) := by
    rw [← hM]
    simp only [pruneMapStep, markOf, ccT]
    split <;> rfl
  rw [hstep]
  unfold ind
  simp only
  split
  · refine ⟨by simp [hs1], hn1, fun j hj => ?_⟩
    by_cases h : i + T[i]!.a = j
    · subst h
      simp only [if_true]
      rw [set!_get!_eq _ _ _ (by rw [hs1]; exact hj)]
    · rw [set!_get!_ne _ _ _ _ h, hm1 j hj]
      simp [h]
  · split
    · have hr := rangeSet_spec (i + T[i]!.a) (markOf o T (map[i]! == mapCopy) i) (T[i]!.b - T[i]!.a) M.1
      refine ⟨by rw [hr.1, hs1], hn1, fun j hj => ?_⟩
      simp only
      rw [hr.2 j (by rw [hs1]; exact hj)]
      by_cases h : i + T[i]!.a ≤ j ∧ j < i + T[i]!.a + (T[i]!.b - T[i]!.a)
      · simp [h]
      · simp only [h, if_false]
        rw [hm1 j hj]
        simp
    · refine ⟨hs1, hn1, fun j hj => ?_⟩
      simp only
      rw [hm1 j hj]
      simp

/-! ### the invariant of the loop -/

/-- after slots `< i` are done: each of them holds `mapNoCopy` or its new index, the number of kept slots before it
    (`low`), and is kept iff its parent is kept and copies its children (`lowrel`); a slot `≥ i` whose parent is
    done still holds the mark that parent gave it (`highP`).  In `pinv_step`, `hA`, `hB`, `hC` say what the step
    does to the slots below, at and above `i`, and `hK` that slot `i` ends up kept iff it was marked `mapCopy`. -/
structure PInv (o : ShrinkOpts) (T : Array PNode) (i : Nat) (map : Array Int) (n_ : Nat) : Prop where
  sz : map.size = T.size
  cnt : n_ = cntK map i
  low : ∀ j, j < i → map[j]! = mapNoCopy ∨ map[j]! = (cntK map j : Int)
  lowrel : ∀ g c, g < T.size → c < i → ind T g c = 1 → ((0 : Int) ≤ map[c]! ↔ ((0 : Int) ≤ map[g]! ∧ ccT o T g = true))
  root : 0 < i → (0 : Int) ≤ map[0]!
  high0 : i = 0 → map[0]! = mapCopy
  highP : ∀ g j, g < i → i ≤ j → j < T.size → ind T g j = 1 →
    map[j]! = if ((0 : Int) ≤ map[g]! ∧ ccT o T g = true) then mapCopy else mapNoCopy

theorem pinv_init (o : ShrinkOpts) (T : Array PNode) (hn : 0 < T.size) :
    PInv o T 0 ((Array.replicate T.size mapInit).set! 0 mapCopy) 0 := by
  refine ⟨by simp, by simp [cntK, rsum], fun j hj => by omega, fun g c _ hc => by omega,
    fun h => by omega, fun _ => ?_, fun g j hg => by omega⟩
  exact set!_get!_eq _ _ _ (by simpa using hn)

theorem pinv_step (o : ShrinkOpts) (T : Array PNode) (ht : TreeLike T) (i : Nat) (hi : i < T.size)
    (map : Array Int) (n_ : Nat) (h : PInv o T i map n_) :
    PInv o T (i + 1) (pruneMapStep o T (map, n_) i).1 (pruneMapStep o T (map, n_) i).2 := by
  obtain ⟨s1, s2, s3⟩ := pruneMapStep_spec o T map n_ i (by rw [h.sz]; exact hi)
  generalize (pruneMapStep o T (map, n_) i).1 = map' at s1 s3 ⊢
  generalize (pruneMapStep o T (map, n_) i).2 = n' at s2 ⊢
  rw [h.sz] at s1 s3
  -- what slot `i` holds before the step
  have hcur : (map[i]! == mapCopy) = true ∨ (map[i]! = mapNoCopy ∧ 0 < i) := by
    by_cases h0 : i = 0
    · left; subst h0; rw [h.high0 rfl]; rfl
    · obtain ⟨g, hg, hgi⟩ := ht.par_below i hi h0
      have := h.highP g i hg (Nat.le_refl _) hi hgi
      split at this
      · left; rw [this]; rfl
      · right; exact ⟨this, by omega⟩
  have hA : ∀ j, j < i → map'[j]! = map[j]! := by
    intro j hj
    rw [s3 j (by omega)]
    have : ¬ ind T i j = 1 := fun hc => by have := ht.lt i j hi hc; omega
    rw [if_neg this, if_neg (by omega)]
  have hB : map'[i]! = if (map[i]! == mapCopy) = true then (n_ : Int) else map[i]! := by
    rw [s3 i hi]
    have : ¬ ind T i i = 1 := fun hc => by have := ht.lt i i hi hc; omega
    rw [if_neg this]
    by_cases hc : (map[i]! == mapCopy) = true <;> simp [hc]
  have hC : ∀ j, i < j → j < T.size → map'[j]! =
      if ind T i j = 1 then markOf o T (map[i]! == mapCopy) i else map[j]! := by
    intro j hj hjn
    rw [s3 j hjn]
    split
    · rfl
    · rw [if_neg (by omega)]
  have hK : (0 ≤ map'[i]!) ↔ (map[i]! == mapCopy) = true := by
    rw [hB]
    rcases hcur with hc | ⟨hc, _⟩
    · simp [hc]
    · rw [hc]; simp [mapNoCopy, mapCopy]
  have hcntI : cntK map' i = cntK map i := cntK_congr _ _ _ (fun x hx => hA x hx)
  refine ⟨s1, ?_, ?_, ?_, ?_, fun h0 => by omega, ?_⟩
  · rw [cntK_succ, hcntI, s2, h.cnt]
    congr 1
    by_cases hc : (map[i]! == mapCopy) = true
    · rw [if_pos hc, if_pos (hK.mpr hc)]
    · rw [if_neg hc, if_neg (fun h => hc (hK.mp h))]
  · intro j hj
    by_cases hji : j = i
    · subst hji
      rw [hB, hcntI]
      rcases hcur with hc | ⟨hc, _⟩
      · right; rw [if_pos hc, h.cnt]
      · left
        have : ¬ (map[j]! == mapCopy) = true := by rw [hc]; simp [mapNoCopy, mapCopy]
        rw [if_neg this]; exact hc
    · have hlt : j < i := by omega
      rw [hA j hlt, cntK_congr map map' j (fun x hx => hA x (by omega))]
      exact h.low j hlt
  · intro g c hg hc hgc
    have hgc' := ht.lt g c hg hgc
    by_cases hci : c = i
    · subst hci
      rw [hK, hA g hgc']
      have := h.highP g c hgc' (Nat.le_refl _) hi hgc
      rw [this]
      split
      · rename_i hcond; simp [hcond]
      · rename_i hcond
        constructor
        · intro hh; simp [mapNoCopy, mapCopy] at hh
        · intro hh; exact absurd hh hcond
    · have hlt : c < i := by omega
      rw [hA c hlt, hA g (by omega)]
      exact h.lowrel g c hg hlt hgc
  · intro _
    by_cases h0 : i = 0
    · subst h0
      rw [hK, h.high0 rfl]; rfl
    · rw [hA 0 (by omega)]; exact h.root (by omega)
  · intro g j hg hj hjn hgj
    rw [hC j (by omega) hjn]
    by_cases hgi : g = i
    · subst hgi
      rw [if_pos hgj]
      simp only [markOf, Bool.and_eq_true]
      by_cases hc : (map[g]! == mapCopy) = true
      · have : 0 ≤ map'[g]! := hK.mpr hc
        simp [hc, this]
      · have : ¬ 0 ≤ map'[g]! := fun h => hc (hK.mp h)
        simp [hc, this]
    · have hlt : g < i := by omega
      have hne : ¬ ind T i j = 1 := fun hc => hgi (ht.unique g i j (by omega) hi hjn hgj hc)
      rw [if_neg hne, hA g hlt]
      exact h.highP g j hlt (by omega) hjn hgj

/-- what step 1 establishes -/
structure PFinal (o : ShrinkOpts) (T : Array PNode) (map : Array Int) : Prop where
  sz : map.size = T.size
  root : (0 : Int) ≤ map[0]!
  low : ∀ j, j < T.size → map[j]! = mapNoCopy ∨ map[j]! = (cntK map j : Int)
  rel : ∀ g c, g < T.size → c < T.size → ind T g c = 1 → ((0 : Int) ≤ map[c]! ↔ ((0 : Int) ≤ map[g]! ∧ ccT o T g = true))

theorem pruneMap_final (o : ShrinkOpts) (T : Array PNode) (ht : TreeLike T) : PFinal o T (pruneMap o T).1 := by
  rw [pruneMap_eq]
  have h := foldl_range_inv (fun k acc => PInv o T k acc.1 acc.2) (pruneMapStep o T)
    ((Array.replicate T.size mapInit).set! 0 mapCopy, 0) (pinv_init o T ht.pos)
    T.size (fun k a hk h => pinv_step o T ht k hk a.1 a.2 h)
  exact ⟨h.sz, h.root ht.pos, h.low, fun g c hg hc hgc => h.lowrel g c hg hc hgc⟩

end MythVerif.PiDag
