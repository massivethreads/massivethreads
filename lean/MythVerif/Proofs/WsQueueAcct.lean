import MythVerif.Proofs.WsQueueSC
/-! Accounting: every inserted element is in exactly one place (abstract deque, in flight, returned). -/
namespace MythVerif.Wsq

def acctList (s : St) : List Elem := s.A ++ (s.flT.toList ++ (s.flO.toList ++ s.retd))

def Acct (s : St) : Prop := (acctList s).Perm s.ins

theorem acct_same (s s' : St) (hA : s'.A = s.A) (hO : s'.flO = s.flO) (hT : s'.flT = s.flT)
    (hr : s'.retd = s.retd) (hi : s'.ins = s.ins) (h : Acct s) : Acct s' := by
  unfold Acct acctList at *; rw [hA, hO, hT, hr, hi]; exact h

theorem acct_snoc (s s' : St) (e : Elem) (hA : s'.A = s.A ++ [e]) (hO : s'.flO = s.flO) (hT : s'.flT = s.flT)
    (hr : s'.retd = s.retd) (hi : s'.ins = e :: s.ins) (h : Acct s) : Acct s' := by
  unfold Acct acctList at *; rw [hA, hO, hT, hr, hi]
  simp only [List.append_assoc, List.singleton_append]
  exact List.perm_middle.trans (List.Perm.cons e h)

theorem acct_cons (s s' : St) (e : Elem) (hA : s'.A = e :: s.A) (hO : s'.flO = s.flO) (hT : s'.flT = s.flT)
    (hr : s'.retd = s.retd) (hi : s'.ins = e :: s.ins) (h : Acct s) : Acct s' := by
  unfold Acct acctList at *; rw [hA, hO, hT, hr, hi]
  exact List.Perm.cons e h

theorem acct_popLP (s s' : St) (x : Elem) (hl : s.A.getLast? = some x) (hA : s'.A = s.A.dropLast)
    (hO0 : s.flO = none) (hO : s'.flO = some x) (hT : s'.flT = s.flT)
    (hr : s'.retd = s.retd) (hi : s'.ins = s.ins) (h : Acct s) : Acct s' := by
  unfold Acct acctList at *; rw [hA, hO, hT, hr, hi]
  have hAx : s.A = s.A.dropLast ++ [x] := by
    rw [List.getLast?_eq_some_iff] at hl
    obtain ⟨ys, hy⟩ := hl
    rw [hy]; simp
  rw [hAx, hO0] at h
  simp only [Option.toList, List.append_assoc, List.singleton_append, List.nil_append] at *
  refine List.Perm.trans ?_ h
  apply List.Perm.append_left
  exact List.perm_middle

theorem acct_ownerRet (s s' : St) (r : Option Elem) (hA : s'.A = s.A) (hr0 : r = s.flO) (hO : s'.flO = none)
    (hT : s'.flT = s.flT) (hr : s'.retd = retOpt s.retd r) (hi : s'.ins = s.ins) (h : Acct s) : Acct s' := by
  unfold Acct acctList at *; rw [hA, hO, hT, hr, hi]
  subst hr0
  cases hf : s.flO with
  | none => simpa [retOpt, hf] using h
  | some x => simpa [retOpt, hf] using h

theorem acct_takeLP (s s' : St) (x : Elem) (A' : List Elem) (hl : s.A = x :: A') (hA : s'.A = A')
    (hT0 : s.flT = none) (hT : s'.flT = some x) (hO : s'.flO = s.flO)
    (hr : s'.retd = s.retd) (hi : s'.ins = s.ins) (h : Acct s) : Acct s' := by
  unfold Acct acctList at *; rw [hA, hO, hT, hr, hi]
  rw [hl, hT0] at h
  simp only [Option.toList, List.nil_append, List.cons_append] at *
  exact List.perm_middle.trans h

theorem acct_thiefRet (s s' : St) (r : Option Elem) (hA : s'.A = s.A) (hr0 : r = s.flT) (hT : s'.flT = none)
    (hO : s'.flO = s.flO) (hr : s'.retd = retOpt s.retd r) (hi : s'.ins = s.ins) (h : Acct s) : Acct s' := by
  unfold Acct acctList at *; rw [hA, hO, hT, hr, hi]
  subst hr0
  cases hf : s.flT with
  | none => simpa [retOpt, hf] using h
  | some x =>
    simp only [retOpt, hf, Option.toList, List.nil_append, List.singleton_append] at *
    refine List.Perm.trans ?_ h
    apply List.Perm.append_left
    exact List.perm_middle

theorem stepO_acct (s s' : St) (h : Inv s) (ha : Acct s) (hs : stepO s = some s') : Acct s' := by
  cases hpc : s.opc <;> simp only [stepO, hpc] at hs
  case idle => simp at hs
  case aborted => simp at hs
  case assertFail => simp at hs
  case pu2 e t =>
    simp at hs; subst hs
    exact acct_snoc s _ e rfl rfl rfl rfl rfl ha
  case pt8 e b =>
    simp at hs; subst hs
    exact acct_cons s _ e rfl rfl rfl rfl rfl ha
  case po2 t =>
    split at hs
    · split at hs
      · rename_i x hx
        simp at hs; subst hs
        exact acct_popLP s _ x hx rfl (h.flOn (by simp [hpc, ownerFlight])) rfl rfl rfl rfl ha
      · simp at hs
    · simp at hs; subst hs; exact acct_same s _ rfl rfl rfl rfl rfl ha
  case po4 t =>
    split at hs
    · split at hs
      · rename_i x hx
        simp at hs; subst hs
        exact acct_popLP s _ x hx rfl (h.flOn (by simp [hpc, ownerFlight])) rfl rfl rfl rfl ha
      · simp at hs
    · simp at hs; subst hs; exact acct_same s _ rfl rfl rfl rfl rfl ha
  case po3 t x =>
    simp at hs; subst hs
    have := h.po3 t x hpc
    exact acct_ownerRet s _ (s.ptr t) rfl (by rw [this.2.1, this.2.2.2.1]) rfl rfl rfl rfl ha
  case po6 r =>
    simp at hs; subst hs
    exact acct_ownerRet s _ r rfl (h.po6 r hpc) rfl rfl rfl rfl ha
  all_goals (first
    | (simp at hs; subst hs; exact acct_same s _ rfl rfl rfl rfl rfl ha)
    | (split at hs <;> simp at hs <;> subst hs <;> first | exact ha | exact acct_same s _ rfl rfl rfl rfl rfl ha))

theorem stepT_acct (s s' : St) (p : Pid) (h : Inv s) (ha : Acct s) (hs : stepT s p = some s') : Acct s' := by
  cases hpc : s.tpc p <;> simp only [stepT, hpc] at hs
  case idle => simp at hs
  case wkd => simp at hs
  case tp3 e b =>
    simp at hs; subst hs
    exact acct_cons s _ e rfl rfl rfl rfl rfl ha
  case tk2 b =>
    split at hs
    · split at hs
      · rename_i x A' hA
        simp at hs; subst hs
        have hT0 : s.flT = none := h.flT_none hpc rfl rfl
        exact acct_takeLP s _ x A' hA rfl hT0 rfl rfl rfl rfl ha
      · simp at hs
    · simp at hs; subst hs; exact acct_same s _ rfl rfl rfl rfl rfl ha
  case tk4 r =>
    simp at hs; subst hs
    exact acct_thiefRet s _ r rfl (h.tk4 p r hpc) rfl rfl rfl rfl ha
  case wk4u r =>
    simp at hs; subst hs
    exact acct_thiefRet s _ r rfl (h.wk4u p r hpc) rfl rfl rfl rfl ha
  all_goals (first
    | (simp at hs; subst hs; exact acct_same s _ rfl rfl rfl rfl rfl ha)
    | (split at hs <;> simp at hs <;> subst hs <;> first | exact ha | exact acct_same s _ rfl rfl rfl rfl rfl ha))

theorem stepD_acct (s s' : St) (p : Pid) (a : Bool) (h : Inv s) (ha : Acct s) (hs : stepD s p a = some s') :
    Acct s' := by
  simp only [stepD] at hs
  split at hs
  · rename_i b r hpc
    split at hs
    · split at hs
      · rename_i x A' hA
        simp at hs; subst hs
        have hT0 : s.flT = none := h.flT_none hpc rfl rfl
        exact acct_takeLP s _ x A' hA rfl hT0 rfl rfl rfl rfl ha
      · simp at hs
    · simp at hs; subst hs; exact acct_same s _ rfl rfl rfl rfl rfl ha
  · simp at hs

theorem step_acct (s : St) (l : Lbl) (s' : St) (h : Inv s) (ha : Acct s) (hs : step s l = some s') : Acct s' := by
  cases l <;> simp only [step] at hs
  case o => exact stepO_acct s s' h ha hs
  case t p => exact stepT_acct s s' p h ha hs
  case tDecide p a => exact stepD_acct s s' p a h ha hs
  all_goals
    first
    | (simp only [callO] at hs; split at hs <;> simp at hs; subst hs; exact acct_same s _ rfl rfl rfl rfl rfl ha)
    | (simp only [callT] at hs; split at hs <;> simp at hs; subst hs; exact acct_same s _ rfl rfl rfl rfl rfl ha)

/-- invariant + accounting hold in every reachable state -/
theorem reachable_inv_acct (n : Int) (hn : 0 ≤ n) (s : St) (h : Reachable step (init n) s) : Inv s ∧ Acct s := by
  refine inv_reachable step (init n) (fun s => Inv s ∧ Acct s) ⟨init_inv n hn, ?_⟩ ?_ s h
  · simp [Acct, acctList, init]
  · intro s l s' ⟨hi, ha⟩ hs
    exact ⟨step_inv s l s' hi hs, step_acct s l s' hi ha hs⟩
end MythVerif.Wsq
