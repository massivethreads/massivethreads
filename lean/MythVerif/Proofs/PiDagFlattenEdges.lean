import MythVerif.Proofs.PiDagTreeEdges
/-! The `edgeEnds` and `counted` conjuncts of the checker.  `enumEdges_ends` holds of any laid-out tree whose
kinds agree with its constructors (`gW`); the counts need the grammar of a recorded DAG (`gTask`). -/
namespace MythVerif.PiDag
open MythVerif.DagRec

/-! ### edge endpoints are leaves inside the DAG -/

def LeafSlot (T : Array PNode) (r : Nat) : Prop := r < T.size ∧ isLeaf T[r]! = true

theorem first_last_leafSlot (T : Array PNode) (d : DNode) (hl : LayN T d 0 1) (hn : T.size = 1 + descT d) (hw : gW d = true)
    (g : Nat) (hg : g < T.size) : LeafSlot T (first T T.size g) ∧ LeafSlot T (last T T.size g) := by
  obtain ⟨d', b', q1, q2, q3, q4⟩ := slot_all T d hl hn hw g hg
  rw [first_eq T d' g b' T.size q1 q2 (by omega), last_eq T d' g b' T.size q1 q2 (by omega)]
  exact ⟨⟨by rcases firstN_in d' g b' with e | e <;> omega, firstN_leaf T d' g b' q1 q2⟩,
    ⟨by rcases lastN_in d' g b' with e | e <;> omega, lastN_leaf T d' g b' q1 q2⟩⟩

/-- every edge `dr_pi_dag_enum_edges` emits joins two leaves of the DAG: its ends are first / last leaves
    of slots inside the DAG, or create nodes -/
theorem enumEdges_ends (T : Array PNode) (d : DNode) (hl : LayN T d 0 1) (hn : T.size = 1 + descT d) (hw : gW d = true) :
    ∀ e ∈ enumEdges T, LeafSlot T e.u ∧ LeafSlot T e.v := by
  have hfl := first_last_leafSlot T d hl hn hw
  have hoff := offLocal_ok T d hl hn hw
  intro e he
  simp only [enumEdges, List.mem_flatMap, List.mem_range] at he
  obtain ⟨i, hi, he⟩ := he
  rw [edgesOfGroup_eq] at he
  split at he
  · simp at he
  rename_i hgi
  simp only [List.mem_flatMap, List.mem_range'_1] at he
  obtain ⟨x, hx, he⟩ := he
  -- `x` is a child of `i` that is not the last one
  have hxn : x + 1 < T.size := by
    have := offLocal_group (hoff i hi) (by simpa using hgi) (by omega); omega
  have ht := (hfl (x + 1) hxn).1
  simp only [itemA, List.mem_cons] at he
  rcases he with rfl | he
  · exact ⟨(hfl x (by omega)).2, ht⟩
  -- `x` is a section and `e` belongs to one of its create children `y`
  split at he
  · rename_i hsec
    simp only [List.mem_flatMap, List.mem_range'_1, createA] at he
    obtain ⟨y, hy, he⟩ := he
    split at he
    · rename_i hcr
      have hyn : y < T.size := by
        have := offLocal_group (hoff x (by omega)) (by simp [isGroupK, hsec]) (by omega); omega
      have hc := offLocal_create (hoff y hyn) hcr
      simp only [List.mem_cons, List.not_mem_nil, or_false] at he
      rcases he with rfl | rfl
      · exact ⟨⟨hyn, by simp [isLeaf, isGroupK, beq_iff_eq.mp hcr]⟩, (hfl _ hc).1⟩
      · exact ⟨(hfl _ hc).2, ht⟩
    · simp at he
  · simp at he

theorem isLeaf_shape {x y : PNode} (h : SameShape x y) : isLeaf x = isLeaf y := by
  unfold isLeaf; rw [h.1, h.2.1, h.2.2]

theorem mem_sortEdges (es : List PEdge) (e : PEdge) : e ∈ sortEdges es ↔ e ∈ es :=
  (List.mergeSort_perm es edgeLe).mem_iff

theorem finishDag_edgeEnds (T : Array PNode) (st : List Nat) (nw : Nat)
    (hends : ∀ e ∈ enumEdges T, LeafSlot T e.u ∧ LeafSlot T e.v) : wfEdgeEnds (finishDag T st nw) = true := by
  unfold wfEdgeEnds
  rw [Array.all_eq_true]
  intro j hj
  have hm : (finishDag T st nw).E[j] ∈ enumEdges T := by
    apply (mem_sortEdges _ _).mp
    simp only [finishDag, List.getElem_toArray]
    exact List.getElem_mem _
  obtain ⟨⟨u1, u2⟩, ⟨v1, v2⟩⟩ := hends _ hm
  have hs : (finishDag T st nw).T.size = T.size := (setEdgePtrs_spec _ _).1
  have hT : ∀ r, isLeaf (finishDag T st nw).T[r]! = isLeaf T[r]! := fun r => isLeaf_shape (setEdgePtrs_shape _ _ _)
  simp only [Bool.and_eq_true, decide_eq_true_eq]
  exact ⟨⟨⟨by omega, by omega⟩, by rw [hT]; exact u2⟩, by rw [hT]; exact v2⟩

/-! ## `counted`: the number of edges `dr_pi_dag_enum_edges` emits is the number
`dr_pi_dag_count_edges_uncollapsed` counted -/

/-! ### `countEdges` as a sum -/

/-- the contribution of slot `i` to `dr_pi_dag_count_edges_uncollapsed` -/
def cgA (T : Array PNode) (i : Nat) : Nat :=
  let u := T[i]!
  if isGroupK u.info.c.kind && u.a < u.b then
    (u.b - u.a - 1) + (if u.info.c.kind == .section then
      2 * ((List.range (u.b - u.a)).countP (fun j => T[i + u.a + j]!.info.c.kind == .createTask)) else 0)
  else 0

theorem countEdges_eq (T : Array PNode) : countEdges T = rsum T.size (cgA T) := by
  unfold countEdges
  have : (fun (acc : Nat) (i : Nat) =>
      let u := T[i]!
      if isGroupK u.info.c.kind && u.a < u.b then
        let acc := acc + (u.b - u.a - 1)
        if u.info.c.kind == .section then
          acc + 2 * ((List.range (u.b - u.a)).countP (fun j => T[i + u.a + j]!.info.c.kind == .createTask))
        else acc
      else acc) = (fun acc i => acc + cgA T i) := by
    funext acc i
    unfold cgA
    simp only
    split
    · split <;> omega
    · rfl
  rw [this, foldl_add_rsum]; simp

/-! ### the two counts on the tree -/

def isCreate : DNode → Nat
  | .create _ _ => 1
  | _ => 0

/-- twice the number of create children of a (materialised) section -/
def scOf : DNode → Nat
  | .group i ds => if i.c.kind == .section then 2 * sumD isCreate ds else 0
  | _ => 0

/-- contribution of a node to `dr_pi_dag_count_edges_uncollapsed` -/
def cLoc : DNode → Nat
  | .group i ds => (ds.length - 1) + scOf (.group i ds)
  | _ => 0

/-- number of edges emitted for the children list of a group -/
def gel : DList → Nat
  | .nil => 0
  | .cons d r => (if r.isNil then 0 else 1 + scOf d) + gel r

/-- number of edges `dr_pi_dag_enum_edges` emits at a node -/
def eLoc : DNode → Nat
  | .group _ ds => gel ds
  | _ => 0

theorem kind_createTask_iff {T : Array PNode} {d : DNode} {g b' : Nat} (hl : LayN T d g b') (hw : gW d = true) :
    (if (T[g]!.info.c.kind == NKind.createTask) = true then 1 else 0) = isCreate d := by
  cases d with
  | ival i =>
    simp only [LayN] at hl
    simp only [gW, Bool.and_eq_true, Bool.not_eq_true'] at hw
    simp [hl, hw.1, isCreate]
  | create i ch =>
    simp only [LayN] at hl
    simp only [gW, Bool.and_eq_true] at hw
    simp [hl.1, hw.1.1, isCreate]
  | group i ds =>
    obtain ⟨h1, _⟩ := group_kind_facts hl hw
    simp [isGroupK_ne_create h1, isCreate]

theorem cgA_eq (T : Array PNode) (d : DNode) (g b' : Nat) (hl : LayN T d g b') (hw : gW d = true) :
    cgA T g = cLoc d := by
  unfold cgA
  cases d with
  | ival i => simp [nongroup_kind hl hw (fun _ _ h => by cases h), cLoc]
  | create i ch => simp [nongroup_kind hl hw (fun _ _ h => by cases h), cLoc]
  | group i ds =>
    obtain ⟨h1, h2, h3, h4, h5, h6⟩ := group_kind_facts hl hw
    have hk : T[g]!.info.c.kind = i.c.kind := by simp only [LayN] at hl; exact hl.1
    have hcnt : (List.range (T[g]!.b - T[g]!.a)).countP (fun j => T[g + T[g]!.a + j]!.info.c.kind == .createTask)
        = sumD isCreate ds := by
      rw [countP_range_isum (g + T[g]!.a) _ (fun x => T[x]!.info.c.kind == .createTask)]
      have : T[g]!.b - T[g]!.a = ds.length := by omega
      rw [this]
      cases ds with
      | nil => rfl
      | cons d1 r1 =>
        rw [h2 (by simp [DList.length])]
        exact isum_children T _ isCreate (fun d' g' b'' q1 q2 => kind_createTask_iff q1 q2) _ b' _ h5 h6
    simp only [h1, Bool.true_and, cLoc, scOf]
    by_cases hlen : ds.length = 0
    · have : ¬ (T[g]!.a < T[g]!.b) := by omega
      have hnil : ds = .nil := by
        cases ds with
        | nil => rfl
        | cons _ _ => simp [DList.length] at hlen
      subst hnil
      simp [this, sumD, DList.length]
    · have : T[g]!.a < T[g]!.b := by omega
      simp only [this, decide_true, if_true, hcnt, hk]
      have : T[g]!.b - T[g]!.a - 1 = ds.length - 1 := by omega
      rw [this]

theorem createEdges_length (t : Nat) : ∀ (ds : DList) (y base : Nat),
    (createEdges t ds y base).length = 2 * sumD isCreate ds
  | .nil, _, _ => rfl
  | .cons d r, y, base => by
    simp only [createEdges, List.length_append, createEdges_length t r, sumD]
    cases d <;> simp [createOf, isCreate] <;> omega

theorem sectionEdges_length (t : Nat) (d : DNode) (bx : Nat) : (sectionEdges t d bx).length = scOf d := by
  cases d with
  | ival _ => rfl
  | create _ _ => rfl
  | group i ds =>
    simp only [sectionEdges, scOf]
    split
    · exact createEdges_length t ds _ _
    · rfl

theorem groupEdges_length (kf : Nat → EKind) : ∀ (ds : DList) (k base : Nat),
    (groupEdges kf ds k base).length = gel ds
  | .nil, _, _ => rfl
  | .cons d r, k, base => by
    simp only [groupEdges, gel, List.length_append, groupEdges_length kf r]
    split
    · rfl
    · simp [itemEdges, sectionEdges_length]; omega

theorem nodeEdges_length (kf : Nat → EKind) (d : DNode) (g b' : Nat) : (nodeEdges kf d g b').length = eLoc d := by
  cases d with
  | ival _ => rfl
  | create _ _ => rfl
  | group i ds => exact groupEdges_length kf ds _ _

theorem enumEdges_length (T : Array PNode) : (enumEdges T).length = rsum T.size (fun i => (edgesOfGroup T i).length) := by
  simp [enumEdges, List.length_flatMap, rsum]

/-! ### the two tree sums agree on recorded DAGs -/

theorem gel_gForest : ∀ (ds : DList) (b : Bool), gForest b ds = true → gel ds = (ds.length - 1) + sumD scOf ds
  | .nil, _, h => by simp [gForest] at h
  | .cons d .nil, b, h => by
    simp only [gForest] at h
    have : scOf d = 0 := by cases d <;> simp_all [gLast, scOf]
    simp [gel, DList.isNil, DList.length, sumD, this]
  | .cons d (.cons d' r), b, h => by
    rw [gForest_cons2, Bool.and_eq_true] at h
    have ih := gel_gForest (.cons d' r) b h.2
    rw [gel, ih]
    simp only [DList.isNil, DList.length, sumD, Bool.false_eq_true, if_false]
    omega

theorem scOf_task {d : DNode} (h : gTask d = true) : scOf d = 0 := by
  cases d with
  | group i ds =>
    simp only [gTask, Bool.and_eq_true, beq_iff_eq] at h
    simp [scOf, h.1]
  | ival _ => rfl
  | create _ _ => rfl

def cLocF (d : DNode) (_ _ : Nat) : Nat := cLoc d
def eLocF (d : DNode) (_ _ : Nat) : Nat := eLoc d
theorem cLoc_ival (i : Info) : cLoc (.ival i) = 0 := rfl
theorem cLoc_create (i : Info) (ch : DNode) : cLoc (.create i ch) = 0 := rfl
theorem cLoc_group (i : Info) (ds : DList) : cLoc (.group i ds) = (ds.length - 1) + scOf (.group i ds) := rfl
theorem eLoc_ival (i : Info) : eLoc (.ival i) = 0 := rfl
theorem eLoc_create (i : Info) (ch : DNode) : eLoc (.create i ch) = 0 := rfl
theorem eLoc_group (i : Info) (ds : DList) : eLoc (.group i ds) = gel ds := rfl
theorem scOf_ival (i : Info) : scOf (.ival i) = 0 := rfl
theorem scOf_create (i : Info) (ch : DNode) : scOf (.create i ch) = 0 := rfl

theorem tsL_nil (φ : DNode → Nat → Nat → Nat) (k base : Nat) : tsL φ .nil k base = 0 := rfl

mutual
theorem tot_node : ∀ (d : DNode) (idx base : Nat),
    (∀ b, gItem b d = true → tsN cLocF d idx base = scOf d + tsN eLocF d idx base) ∧
    (∀ b, gLast b d = true → tsN cLocF d idx base = scOf d + tsN eLocF d idx base) ∧
    (gTask d = true → tsN cLocF d idx base = tsN eLocF d idx base)
  | .ival i, idx, base => by simp [tsN, cLocF, eLocF, cLoc_ival, eLoc_ival, scOf_ival, gTask]
  | .create i ch, idx, base => by
    refine ⟨fun b h => ?_, fun b h => by simp [gLast] at h, fun h => by simp [gTask] at h⟩
    simp only [gItem, Bool.and_eq_true] at h
    have := (tot_node ch base (base + 1)).2.2 h.2
    simp only [tsN, cLocF, eLocF, cLoc_create, eLoc_create, scOf_create] at this ⊢
    omega
  | .group i ds, idx, base => by
    have key : ∀ b, (ds.isNil || gForest b ds) = true →
        tsN cLocF (.group i ds) idx base =
          scOf (.group i ds) + tsN eLocF (.group i ds) idx base := by
      intro b h
      simp only [tsN, cLocF, eLocF, cLoc_group, eLoc_group]
      rcases Bool.or_eq_true _ _ ▸ h with h | h
      · cases ds with
        | nil => simp [DList.length, gel, tsL_nil]
        | cons _ _ => simp [DList.isNil] at h
      · have e1 := gel_gForest ds b h
        have e2 := tot_list ds b base (base + ds.length) h
        omega
    refine ⟨fun b h => ?_, fun b h => by simp [gLast] at h, fun h => ?_⟩
    · simp only [gItem, Bool.and_eq_true] at h
      exact key false h.2
    · have hs := scOf_task h
      simp only [gTask, Bool.and_eq_true] at h
      have := key true h.2
      rw [hs] at this
      omega
theorem tot_list : ∀ (ds : DList) (b : Bool) (k base : Nat), gForest b ds = true →
    tsL cLocF ds k base = sumD scOf ds + tsL eLocF ds k base
  | .nil, _, _, _, h => by simp [gForest] at h
  | .cons d .nil, b, k, base, h => by
    simp only [gForest] at h
    have := (tot_node d k base).2.1 b h
    simp only [tsL, sumD] at this ⊢
    omega
  | .cons d (.cons d' r), b, k, base, h => by
    rw [gForest_cons2, Bool.and_eq_true] at h
    have h1 := (tot_node d k base).1 b h.1
    have h2 := tot_list (.cons d' r) b (k + 1) (base + descT d) h.2
    have e1 : sumD scOf (.cons d (.cons d' r)) = scOf d + sumD scOf (.cons d' r) := rfl
    have e2 : ∀ φ, tsL φ (.cons d (.cons d' r)) k base = tsN φ d k base + tsL φ (.cons d' r) (k + 1) (base + descT d) :=
      fun _ => by rw [tsL]
    rw [e2, e2, e1]
    omega
end

/-- **counted** for a laid-out recorded DAG, with the count taken on any array of the same shape -/
theorem counted_of_lay (T T' : Array PNode) (d : DNode) (hl : LayN T d 0 1) (hn : T.size = 1 + descT d)
    (hl' : LayN T' d 0 1) (hn' : T'.size = 1 + descT d) (h : gTask d = true) :
    (enumEdges T).length = countEdges T' := by
  have hw := gTask_gW d h
  rw [enumEdges_length, countEdges_eq,
    sum_all T _ eLocF
      (fun d' g b' q1 q2 q3 => by rw [nodeEdges_eq T d' g b' q1 q2 q3, nodeEdges_length]; rfl) d hl hn hw,
    sum_all T' _ cLocF (fun d' g b' q1 q2 _ => cgA_eq T' d' g b' q1 q2) d hl' hn' hw]
  exact ((tot_node d 0 1).2.2 h).symm

end MythVerif.PiDag
