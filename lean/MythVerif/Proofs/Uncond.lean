import MythVerif.Model.Uncond
/-! Inductive invariant of the uncondition-variable model running side by side with the protocol
monitor, its preservation (`inv_step`: `claim` against the flat clauses, every other label against the
regrouped form `Glob ∧ Rdv`), the link between label sequences and states, and the rank used for the
progress (stuck-freedom) theorem. -/
namespace MythVerif.Uncond

structure Inv (s : St) (p : Phase) : Prop where
  sv  : ∀ t, s.ctxSaved t = true ↔ (s.pc t = .cb ∨ s.pc t = .asleep ∨ s.pc t = .runnable)
  thA : ∀ x, s.th = some x → s.pc x = .asleep
  rqR : ∀ x, x ∈ s.runq ↔ s.pc x = .runnable
  rqN : s.runq.Nodup
  frT : p = .free → s.th = none
  frQ : ∀ t, p = .free → (s.pc t = .idle ∨ s.pc t = .sd ∨ s.pc t = .runnable)
  anW : ∀ w, p = .announced w → (s.pc w = .ann ∨ s.pc w = .sw ∨ s.pc w = .cb ∨ s.pc w = .asleep)
  anT : ∀ w, p = .announced w → s.pc w = .asleep → s.th = some w
  anQ : ∀ w t, p = .announced w → t ≠ w → (s.pc t = .idle ∨ s.pc t = .sd ∨ s.pc t = .runnable)
  clN : ∀ w q, p = .claimed w q → q ≠ w
  clQ : ∀ w q t, p = .claimed w q → t ≠ w → t ≠ q → (s.pc t = .idle ∨ s.pc t = .sd ∨ s.pc t = .runnable)
  clS : ∀ w q, p = .claimed w q → (s.pc q = .sg ∨ s.pc q = .sc w ∨ s.pc q = .sp w ∨ s.pc q = .sd)
  clG : ∀ w q, p = .claimed w q → s.pc q = .sg →
          ((s.pc w = .ann ∨ s.pc w = .sw ∨ s.pc w = .cb ∨ s.pc w = .asleep) ∧ (s.pc w = .asleep → s.th = some w))
  clC : ∀ w q, p = .claimed w q → s.pc q = .sc w → s.th = some w
  clP : ∀ w q, p = .claimed w q → s.pc q = .sp w → (s.pc w = .asleep ∧ s.th = none)
  clD : ∀ w q, p = .claimed w q → s.pc q = .sd → (s.pc w = .runnable ∧ s.th = none)

theorem inv_init : Inv init .free := by
  constructor <;> simp [init]

macro "ufinish" : tactic => `(tactic| (
    constructor
    all_goals (try simp only [upd_apply] at *)
    all_goals (first | grind [List.Nodup.mem_erase_iff, List.Nodup.erase, List.nodup_cons, List.nodup_append] | skip)))

macro "ustep" x:ident : tactic => `(tactic| (
  intro h hs hp
  obtain ⟨hsv, hthA, hrqR, hrqN, hfrT, hfrQ, hanW, hanT, hanQ, hclN, hclQ, hclS, hclG, hclC, hclP, hclD⟩ := h
  simp only [step] at hs
  (first | (split at hs) | skip)
  all_goals (try simp at hs)
  all_goals (try subst hs)
  all_goals (cases $x:ident)
  all_goals (simp only [proto] at hp)
  all_goals (first | (split at hp) | skip)
  all_goals (first | (split at hp) | skip)
  all_goals (try simp at hp)
  all_goals (try subst hp)
  all_goals (try ufinish)))

/-- between its announcement and the push that hands it back -/
def blocking : PC → Bool
  | .ann | .sw | .cb | .asleep => true
  | _ => false

/-! ### the invariant regrouped: what holds in every phase, and what the phase says

`Inv` lists its clauses flat, each guarded by the phase it speaks of.  A step is checked against
the four phase-independent clauses (`Glob`) and against the one description of the rendezvous in
flight that the current phase selects (`Rdv`): every thread but the phase's waiter and signaler is
`quiet`, so a step by a thread that is not quiet pins down who moves. -/

structure Glob (s : St) : Prop where
  sv  : ∀ t, s.ctxSaved t = suspended (s.pc t)
  thA : ∀ x, s.th = some x → s.pc x = .asleep
  rqR : ∀ x, x ∈ s.runq ↔ s.pc x = .runnable
  rqN : s.runq.Nodup

/-- `w` is inside wait and not yet taken by a signaler: once asleep it is the thread in `u->th` -/
def Waiting (s : St) (w : Tid) : Prop :=
  blocking (s.pc w) = true ∧ (s.pc w = .asleep → s.th = some w)

def Rdv (s : St) : Phase → Prop
  | .free => s.th = none ∧ ∀ t, quiet (s.pc t) = true
  | .announced w => Waiting s w ∧ ∀ t, t ≠ w → quiet (s.pc t) = true
  | .claimed w q => q ≠ w ∧ (∀ t, t ≠ w → t ≠ q → quiet (s.pc t) = true) ∧
      ((s.pc q = .sg ∧ Waiting s w) ∨ (s.pc q = .sc w ∧ s.th = some w) ∨
       (s.pc q = .sp w ∧ s.pc w = .asleep ∧ s.th = none) ∨
       (s.pc q = .sd ∧ s.pc w = .runnable ∧ s.th = none))

theorem inv_iff (s : St) (p : Phase) : Inv s p ↔ Glob s ∧ Rdv s p := by
  constructor
  · rintro ⟨hsv, hthA, hrqR, hrqN, hfrT, hfrQ, hanW, hanT, hanQ, hclN, hclQ, hclS, hclG, hclC, hclP, hclD⟩
    refine ⟨⟨?_, hthA, hrqR, hrqN⟩, ?_⟩
    · intro t; grind [suspended]
    · cases p <;> simp only [Rdv, Waiting] <;> grind [quiet, blocking]
  · rintro ⟨⟨hsv, hthA, hrqR, hrqN⟩, hr⟩
    constructor <;> grind [Rdv, Waiting, quiet, blocking, suspended]

/-- a thread between reading `u->th = x` and pushing `x` is the signaler of the rendezvous in flight,
    and `x` is its waiter, asleep -/
theorem signaler {s : St} {p : Phase} {t x : Tid} (hg : Glob s) (hr : Rdv s p)
    (ht : s.pc t = .sc x ∨ s.pc t = .sp x) :
    p = .claimed x t ∧ s.pc x = .asleep ∧ (s.pc t = .sp x → s.th = none) := by
  have := hg.thA
  cases p <;> simp only [Rdv, Waiting] at hr <;> grind [quiet, blocking]

/-- `claim` is where the phase changes shape, from one party to two; it is checked against the flat
    invariant, clause by clause -/
theorem p_claim (s s' : St) (p p' : Phase) (t) : Inv s p → step s (.claim t) = some s' → proto p (.claim t) = some p' → Inv s' p' := by ustep p

theorem inv_step (s s' : St) (p p' : Phase) (l : Lbl) (h : Inv s p) (hs : step s l = some s')
    (hp : proto p l = some p') : Inv s' p' := by
  cases l with
  | claim t => exact p_claim s s' p p' t h hs hp
  | _ =>
    obtain ⟨hg, hr⟩ := (inv_iff s p).mp h
    -- for `sigPush`: the thread pushed is not the one in `u->th`
    have hsp : ∀ t x, s.pc t = .sp x → s.th = none := fun t x h => (signaler hg hr (.inr h)).2.2 h
    obtain ⟨hsv, hthA, hrqR, hrqN⟩ := hg
    refine (inv_iff s' p').mpr ⟨?_, ?_⟩ <;>
      simp only [step] at hs <;> split at hs <;> simp at hs <;> subst hs
    -- `Glob`: a step moves its thread between program points of the same kind, except where it
    -- also writes `ctxSaved` (`cbBegin`, `resume`) or the run queue (`resume`, `sigPush`)
    · all_goals constructor <;> grind [upd_apply, suspended, List.Nodup.mem_erase_iff, List.Nodup.erase]
    -- `Rdv`: a thread that is not quiet is the waiter or the signaler of the phase; `resume w` in
    -- phase `claimed w q` finds `q` after its push, since before it `w` is not runnable (`thA`)
    · all_goals cases p <;> simp only [proto] at hp <;> simp only [Rdv, Waiting] at hr <;>
        grind [Rdv, Waiting, quiet, blocking, upd_apply]

theorem pstep_iff (s s' : St) (p p' : Phase) (l : Lbl) :
    pstep (s, p) l = some (s', p') ↔ (step s l = some s' ∧ proto p l = some p') := by
  simp only [pstep]
  cases h1 : step s l <;> cases h2 : proto p l <;> simp

/-- a run of the product is a run of the library that the protocol monitor accepts -/
theorem runs_pstep (ls : List Lbl) : ∀ (s s' : St) (p p' : Phase),
    runs pstep (s, p) ls = some (s', p') ↔ (runs step s ls = some s' ∧ runs proto p ls = some p') := by
  induction ls with
  | nil => intro s s' p p'; simp [runs, Prod.ext_iff]
  | cons l ls ih =>
    intro s s' p p'
    simp only [runs]
    cases h1 : step s l with
    | none => simp [pstep, h1]
    | some s1 =>
      cases h2 : proto p l with
      | none => simp [pstep, h1, h2]
      | some p1 =>
        have : pstep (s, p) l = some (s1, p1) := (pstep_iff s s1 p p1 l).mpr ⟨h1, h2⟩
        simp only [this]
        exact ih s1 s' p1 p'

/-- the invariant holds after every label sequence that the library can execute and that follows
    the protocol (any threads, any schedule, any number of rendezvous) -/
theorem reachable_inv (s : St) (p : Phase) (h : Reachable pstep pinit (s, p)) : Inv s p :=
  inv_reachable pstep pinit (fun sp => Inv sp.1 sp.2) inv_init
    (fun (s, p) l (s', p') h hs =>
      have ⟨h1, h2⟩ := (pstep_iff s s' p p' l).mp hs
      inv_step s s' p p' l h h1 h2) (s, p) h

theorem reachable_of_runs (ls : List Lbl) (s : St) (p : Phase) (h1 : runs step init ls = some s)
    (h2 : runs proto .free ls = some p) : Reachable pstep pinit (s, p) :=
  ⟨ls, (runs_pstep ls init s .free p).mpr ⟨h1, h2⟩⟩

/-! ### who announced / claimed / was pushed / resumed, in order, along a label sequence -/
def annOf : Lbl → Option Tid | .announce t => some t | _ => none
def claimOf : Lbl → Option Tid | .claim t => some t | _ => none
def pushOf : Lbl → Option Tid | .sigPush _ x => some x | _ => none
def resumeOf : Lbl → Option Tid | .resume t => some t | _ => none
/-- the waiters in the order in which they announced -/
def anns (ls : List Lbl) : List Tid := ls.filterMap annOf
/-- the signalers in the order in which they claimed -/
def claims (ls : List Lbl) : List Tid := ls.filterMap claimOf
/-- the threads handed to the run queue, in order -/
def pushed (ls : List Lbl) : List Tid := ls.filterMap pushOf
/-- the threads that resumed from `myth_uncond_wait`, in order -/
def resumed (ls : List Lbl) : List Tid := ls.filterMap resumeOf

/-- the rendezvous recorded in the trace, by phase: every push so far handed over the waiter that
    announced at the same position, and at most the last announcement is still unanswered -/
def Tr (ls : List Lbl) (s : St) : Phase → Prop
  | .free => anns ls = pushed ls ∧ (claims ls).length = (pushed ls).length
  | .announced w => anns ls = pushed ls ++ [w] ∧ (claims ls).length = (pushed ls).length
  | .claimed w q => (claims ls).length = (anns ls).length ∧
      (s.pc q = .sd → anns ls = pushed ls) ∧ (s.pc q ≠ .sd → anns ls = pushed ls ++ [w])

/-- a step that extends none of the three lists and moves nobody to or from `sd` -/
theorem Tr.frame {ls : List Lbl} {s s' : St} {p : Phase} {l : Lbl} (h : Tr ls s p)
    (ha : annOf l = none) (hc : claimOf l = none) (hp : pushOf l = none)
    (hsd : ∀ q, s'.pc q = .sd ↔ s.pc q = .sd) : Tr (ls ++ [l]) s' p := by
  cases p <;> simp_all [Tr, anns, claims, pushed]

theorem tr_step (ls : List Lbl) (s s' : St) (p p' : Phase) (l : Lbl) (hi : Inv s p) (ht : Tr ls s p)
    (hs : step s l = some s') (hp : proto p l = some p') : Tr (ls ++ [l]) s' p' := by
  obtain ⟨⟨-, hthA, -, -⟩, hr⟩ := (inv_iff s p).mp hi
  cases l <;> simp only [step] at hs <;> split at hs <;> simp at hs <;> subst hs
  -- `Rdv` tells who pushes whom (the phase's signaler its waiter) and where the signaler is when a
  -- `resume` ends the rendezvous
  case announce | claim | sigPush | sigRet | resume =>
    all_goals cases p <;> simp only [proto] at hp <;> simp only [Rdv, Waiting, Tr] at hr ht <;>
      grind [Tr, anns, claims, pushed, annOf, claimOf, pushOf, quiet, blocking, upd_apply]
  all_goals
    cases Option.some.inj hp
    exact ht.frame rfl rfl rfl (by grind [upd_apply])

theorem tr_of_runs (ls : List Lbl) (s : St) (p : Phase) (h1 : runs step init ls = some s)
    (h2 : runs proto .free ls = some p) : Tr ls s p := by
  have := runs_trace_ind pstep (fun ls sp => Inv sp.1 sp.2 ∧ Tr ls sp.1 sp.2)
    (fun ls (s, p) l (s', p') h hs =>
      have ⟨h1, h2⟩ := (pstep_iff s s' p p' l).mp hs
      ⟨inv_step s s' p p' l h.1 h1 h2, tr_step ls s s' p p' l h.1 h.2 h1 h2⟩)
    ls [] pinit (s, p) ⟨inv_init, by simp [pinit, Tr, anns, claims, pushed]⟩
    ((runs_pstep ls init s .free p).mpr ⟨h1, h2⟩)
  simpa using this.2

/-! ### per-thread accounting (pure control flow of the model, no protocol needed) -/
def isClaimBy (q : Tid) : Lbl → Bool | .claim t => t == q | _ => false
def isPushBy (q : Tid) : Lbl → Bool | .sigPush t _ => t == q | _ => false
def isRetBy (q : Tid) : Lbl → Bool | .sigRet t => t == q | _ => false
def isAnnOf (w : Tid) : Lbl → Bool | .announce t => t == w | _ => false
def isPushOf (w : Tid) : Lbl → Bool | .sigPush _ x => x == w | _ => false
def isResumeOf (w : Tid) : Lbl → Bool | .resume t => t == w | _ => false

/-- thread `q`'s calls counted along the trace against where it stands now -/
structure Acct (ls : List Lbl) (pc : PC) (q : Tid) : Prop where
  ret  : ls.countP (isRetBy q) + (if pc = .sd then 1 else 0) = ls.countP (isPushBy q)
  push : ls.countP (isPushBy q) + (if inSignal pc = true then 1 else 0) = ls.countP (isClaimBy q)
  res  : ls.countP (isResumeOf q) + (if pc = .runnable then 1 else 0) = ls.countP (isPushOf q)
  ann  : ls.countP (isPushOf q) + (if blocking pc = true then 1 else 0) = ls.countP (isAnnOf q)

theorem acct_step (ls : List Lbl) (s : St) (l : Lbl) (s' : St) (h : ∀ q, Acct ls (s.pc q) q)
    (hs : step s l = some s') (q : Tid) : Acct (ls ++ [l]) (s'.pc q) q := by
  obtain ⟨a, b, c, d⟩ := h q
  cases l <;> simp only [step] at hs <;> split at hs <;> simp at hs <;> subst hs <;> constructor <;>
    simp only [List.countP_append, List.countP_cons, List.countP_nil, isClaimBy, isPushBy, isRetBy,
      isAnnOf, isPushOf, isResumeOf, upd_apply, beq_iff_eq] <;>
    grind [inSignal, blocking]

theorem acct (ls : List Lbl) (s : St) (h : runs step init ls = some s) (q : Tid) : Acct ls (s.pc q) q := by
  have := runs_trace_ind step (fun ls s => ∀ q, Acct ls (s.pc q) q) acct_step ls [] init s
    (by intro q; constructor <;> simp [init, inSignal, blocking]) h
  simpa using this q

/-! ### rank: library steps of the waiter and its signaler still missing until the waiter has resumed -/
def wrank : PC → Nat | .ann => 3 | .sw => 2 | .cb => 1 | _ => 0
def qrank : PC → Nat | .sg => 3 | .sc _ => 2 | .sp _ => 1 | _ => 0
def rank (s : St) (w q : Tid) : Nat := wrank (s.pc w) + qrank (s.pc q) + 1

theorem rank_le (s : St) (w q : Tid) : rank s w q ≤ 7 := by
  have a : wrank (s.pc w) ≤ 3 := by cases s.pc w <;> simp [wrank]
  have b : qrank (s.pc q) ≤ 3 := by cases s.pc q <;> simp [qrank]
  unfold rank; omega

end MythVerif.Uncond
