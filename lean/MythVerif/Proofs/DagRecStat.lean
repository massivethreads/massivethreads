import MythVerif.Proofs.DagRecCount
/-! The edge totals `gen_stat.c` reports for a contracted DAG (logical counts of the collapsed
nodes + the edges that are still explicit) equal the root's logical edge counts, whatever was
contracted.  Tree-level statement: the explicit edges are those `dr_pi_dag_enum_edges` emits for
the materialised sections / tasks. -/
namespace MythVerif.DagRec

/-- what a parent expects a child to account for -/
def ecOf : DNode → EC
  | .ival i => i.c.ec
  | .create _ ch => ch.info.c.ec
  | .group i _ => i.c.ec

mutual
/-- every materialised group reports exactly its logical edge counts, recursively -/
def Good : DNode → Prop
  | .ival i => i.c.ec = {} ∧ i.c.kind ≠ .createTask
  | .create i ch => i.c.kind = .createTask ∧ i.c.ec = {} ∧ ch.isGroup = true ∧ Good ch
  | .group i ds => GoodL ds ∧ (ds.isNil = false → totL i.c.kind ds = i.c.ec)
def GoodL : DList → Prop
  | .nil => True
  | .cons d r => Good d ∧ GoodL r
end

theorem good_tot : ∀ d : DNode, Good d → totN d = ecOf d
  | .ival i, h => by simp only [Good] at h; simp [totN, ecOf, h.1]
  | .create i ch, h => by
    simp only [Good] at h
    cases ch with
    | ival j => simp [DNode.isGroup] at h
    | create j c => simp [DNode.isGroup] at h
    | group j ds =>
      have := good_tot (.group j ds) h.2.2.2
      simpa [totN, ecOf, DNode.info] using this
  | .group i ds, h => by
    simp only [Good] at h
    simp only [totN, ecOf]
    cases hd : ds.isNil
    · simp [h.2 hd]
    · simp

/-- children lists that look alike to a parent: same kinds, same reported edges -/
inductive Alike : DList → DList → Prop where
  | nil : Alike .nil .nil
  | cons {d d' : DNode} {r r' : DList} : d.info.c.kind = d'.info.c.kind → totN d = totN d' → Alike r r' →
      Alike (.cons d r) (.cons d' r')

theorem Alike.isNil {a b : DList} (h : Alike a b) : a.isNil = b.isNil := by cases h <;> rfl

theorem totL_alike (pk : NKind) {a b : DList} (h : Alike a b) : totL pk a = totL pk b := by
  induction h with
  | nil => rfl
  | cons hk ht hr ih => simp only [totL, hk, ht, ih, hr.isNil]

theorem totN_group_good (i : Info) (ds : DList) (h : Good (.group i ds)) : totN (.group i ds) = i.c.ec := by
  have := good_tot _ h; simpa [ecOf] using this

theorem collapse_good (v : Variant) (i : Info) : Good (collapse v i) := by
  simp [collapse, Good, GoodL, DList.isNil]

mutual
theorem pruneNode_good (v : Variant) : ∀ (d : DNode) (b : Int), Good d →
    Good (pruneNode v d b) ∧ (pruneNode v d b).info.c = d.info.c ∧ totN (pruneNode v d b) = totN d ∧
      (pruneNode v d b).isGroup = d.isGroup
  | .ival i, b, h => by simp [pruneNode, h]
  | .create i ch, b, h => by
    simp only [Good] at h
    obtain ⟨g1, g2, g3, g4⟩ := pruneNode_good v ch (b - 1) h.2.2.2
    simp only [pruneNode, Good, DNode.info, totN]
    exact ⟨⟨h.1, h.2.1, by rw [g4]; exact h.2.2.1, g1⟩, trivial, g3, rfl⟩
  | .group i ds, b, h => by
    have ht := totN_group_good i ds h
    rcases pruneNode_group_cases v i ds b with e | e | e <;> rw [e]
    · exact ⟨h, rfl, rfl, rfl⟩
    · exact ⟨collapse_good v i, rfl, by rw [ht]; simp [collapse, totN, DList.isNil], rfl⟩
    · simp only [Good] at h
      obtain ⟨g1, g2⟩ := pruneList_good v ds (b - 1) ((i.cur : Int) - 1) h.1
      refine ⟨?_, rfl, ?_, rfl⟩
      · simp only [Good]
        exact ⟨g1, fun hn => by rw [← totL_alike _ g2]; exact h.2 (by rw [g2.isNil]; exact hn)⟩
      · simp only [totN]
        rw [← g2.isNil, ← totL_alike _ g2]
theorem pruneList_good (v : Variant) : ∀ (ds : DList) (bl nl : Int), GoodL ds →
    GoodL (pruneList v ds bl nl).1 ∧ Alike ds (pruneList v ds bl nl).1
  | .nil, bl, nl, _ => by simp [pruneList, GoodL]; exact .nil
  | .cons d r, bl, nl, h => by
    simp only [GoodL] at h
    obtain ⟨g1, g2, g3, _⟩ := pruneNode_good v d (Int.tdiv (bl * (d.curBelow : Int)) nl) h.1
    obtain ⟨k1, k2⟩ := pruneList_good v r
      (bl - ((pruneNode v d (Int.tdiv (bl * (d.curBelow : Int)) nl)).curBelow : Int)) (nl - (d.curBelow : Int)) h.2
    simp only [pruneList, GoodL]
    exact ⟨⟨g1, k1⟩, .cons (by rw [g2]) g3.symm k2⟩
end

theorem summarize_good (v : Variant) (o : Opts) (i : Info) (ds : DList) (h : Good (.group i ds)) :
    Good (summarize v o i ds) := by
  rcases summarize_cases v o i ds with e | e | e <;> rw [e]
  · exact h
  · exact collapse_good v i
  · exact (pruneNode_good v _ _ h).1

/-! #### the explicit edges of a materialised group are what `dr_accumulate_stats` counted -/

def DNode.isCreate : DNode → Bool
  | .create _ _ => true
  | _ => false

/-- create nodes occur only in sections (`inTask = false`) and are never the last child -/
def Shape (inTask : Bool) : DList → Prop
  | .nil => True
  | .cons d r => (d.info.c.kind = .createTask → d.isCreate = true ∧ inTask = false ∧ r.isNil = false) ∧ Shape inTask r

theorem views_isEmpty (ds : DList) : ds.views.isEmpty = ds.isNil := by cases ds <;> rfl

theorem view_ec_nochild (x : View) (hk : x.i.c.kind ≠ .createTask) (pk : NKind) (hn : Bool) :
    x.ec .fixed hn = x.i.c.ec + createOwn pk x.i.c.kind + (if hn then contOf x.i.c.kind else {}) := by
  unfold View.ec
  cases hk' : x.i.c.kind <;> cases hn <;> simp_all [contOf, createOwn, EC.ext_iff]

theorem child_ec_eq (pk : NKind) (b : Bool) (hb : b = false → pk = .section) (d : DNode) (hn : Bool)
    (hg : Good d) (hs : d.info.c.kind = .createTask → d.isCreate = true ∧ b = false ∧ hn = true) :
    d.view.ec .fixed hn = totN d + createOwn pk d.info.c.kind + (if hn then contOf d.info.c.kind else {}) := by
  cases d with
  | ival i =>
    simp only [Good] at hg
    have := view_ec_nochild (DNode.ival i).view hg.2 pk hn
    simp only [DNode.view] at this ⊢
    rw [this, hg.1]; simp [totN, DNode.info]
  | create i ch =>
    simp only [Good] at hg
    have hs' := hs (by simp [DNode.info, hg.1])
    have hec : ecOf ch = ch.info.c.ec := by
      cases ch <;> simp_all [DNode.isGroup, ecOf, DNode.info]
    simp [DNode.view, View.ec, totN, DNode.info, createOwn, hg.1, hg.2.1, hs'.2.2, hb hs'.2.1,
      good_tot ch hg.2.2.2, hec, contOf, EC.ext_iff]
  | group j ds =>
    have hk : j.c.kind ≠ .createTask := by
      intro e
      have := (hs (by simp [DNode.info, e])).1
      simp [DNode.isCreate] at this
    have := view_ec_nochild (DNode.group j ds).view hk pk hn
    simp only [DNode.view] at this ⊢
    rw [this, totN_group_good j ds hg]; simp [DNode.info]

theorem totL_eq_ecSum (pk : NKind) (b : Bool) (hb : b = false → pk = .section) : ∀ (ds : DList),
    GoodL ds → Shape b ds → totL pk ds = ecSum .fixed ds.views
  | .nil, _, _ => rfl
  | .cons d r, hg, hs => by
    simp only [GoodL] at hg
    simp only [Shape] at hs
    have := child_ec_eq pk b hb d (!r.isNil) hg.1 (fun hk => by
      have := hs.1 hk; exact ⟨this.1, this.2.1, by simp [this.2.2]⟩)
    simp only [totL, DList.views, ecSum, views_isEmpty, this, totL_eq_ecSum pk b hb r hg.2 hs.2]
    cases r.isNil <;> simp

/-! #### every recorded DAG is `Good` -/

theorem summarize_core (v : Variant) (o : Opts) (i : Info) (ds : DList) :
    (summarize v o i ds).info.c = i.c := by
  obtain ⟨j, ds', hp, hj⟩ := admissible_summarize v o i ds
  rw [hp]; exact hj

theorem views_ne_of_not_nil (ds : DList) (h : ds.isNil = false) : ds.views ≠ [] := by
  cases ds <;> simp_all [DList.isNil, DList.views]

theorem group_good (o : Opts) (k : NKind) (b : Bool) (hb : b = false → k = .section) (ds : DList)
    (hg : GoodL ds) (hs : Shape b ds) (hn : ds.isNil = false) :
    Good (summarize .fixed o (accumulate .fixed k ds.views) ds) := by
  apply summarize_good
  simp only [Good]
  refine ⟨hg, fun _ => ?_⟩
  rw [accumulate_kind, (accumulate_closed _ _ _ (views_ne_of_not_nil ds hn)).2.2.1]
  exact totL_eq_ecSum k b hb ds hg hs

mutual
theorem recTree_good (o : Opts) : ∀ (t : Tree) (c : Cursor),
    (∀ b, wnItem b t = true → Good (recTree .fixed (summarize .fixed o) t c).1 ∧
      ((recTree .fixed (summarize .fixed o) t c).1.info.c.kind = .createTask →
        (recTree .fixed (summarize .fixed o) t c).1.isCreate = true ∧ b = false)) ∧
    (∀ b, isLast b t = true → Good (recTree .fixed (summarize .fixed o) t c).1 ∧
      (recTree .fixed (summarize .fixed o) t c).1.info.c.kind ≠ .createTask) ∧
    (wnTask t = true → Good (recTree .fixed (summarize .fixed o) t c).1 ∧
      (recTree .fixed (summarize .fixed o) t c).1.isGroup = true)
  | .ival k r, c => by
    refine ⟨?_, ?_, by simp [wnTask]⟩
    · intro b h
      simp [wnItem] at h; subst h
      simp [recTree, Good, endInterval, DNode.info]
    · intro b h
      cases b <;> simp [isLast] at h <;> subst h <;> simp [recTree, Good, endInterval, DNode.info]
  | .create r child, c => by
    refine ⟨?_, by simp [isLast], by simp [wnTask]⟩
    intro b h
    simp only [wnItem, Bool.and_eq_true, Bool.not_eq_true'] at h
    have ih := (recTree_good o child (cursorAfter (endInterval .createTask r c) .create)).2.2 h.2
    simp only [recTree, Good, DNode.isCreate]
    exact ⟨⟨by simp [endInterval], by simp [endInterval], ih.2, ih.1⟩, fun _ => ⟨trivial, h.1⟩⟩
  | .group k f, c => by
    refine ⟨?_, by simp [isLast], ?_⟩
    · intro b h
      simp only [wnItem, Bool.and_eq_true, beq_iff_eq] at h
      obtain ⟨rfl, hf⟩ := h
      obtain ⟨g1, g2, g3⟩ := recForest_good o f c false hf
      rw [rec_group]
      refine ⟨group_good o .section false (fun _ => rfl) _ g1 g2 g3, fun hk => ?_⟩
      rw [summarize_core, accumulate_kind] at hk; cases hk
    · intro h
      simp only [wnTask, Bool.and_eq_true, beq_iff_eq] at h
      obtain ⟨rfl, hf⟩ := h
      obtain ⟨g1, g2, g3⟩ := recForest_good o f c true hf
      rw [rec_group]
      exact ⟨group_good o .task true (fun e => by cases e) _ g1 g2 g3, summarize_isGroup .fixed o _ _⟩
theorem recForest_good (o : Opts) : ∀ (f : Forest) (c : Cursor) (b : Bool), wnForest b f = true →
    GoodL (recForest .fixed (summarize .fixed o) f c).1 ∧ Shape b (recForest .fixed (summarize .fixed o) f c).1 ∧
      (recForest .fixed (summarize .fixed o) f c).1.isNil = false
  | .nil, c, b, h => by simp [wnForest] at h
  | .cons t .nil, c, b, h => by
    simp only [wnForest] at h
    obtain ⟨g1, g2⟩ := (recTree_good o t c).2.1 b h
    simp only [rec_cons, rec_nil, GoodL, Shape, DList.isNil, and_true]
    exact ⟨g1, fun hk => absurd hk g2⟩
  | .cons t (.cons t' rest), c, b, h => by
    simp only [wnForest, Bool.and_eq_true] at h
    obtain ⟨g1, g2⟩ := (recTree_good o t c).1 b h.1
    obtain ⟨k1, k2, k3⟩ := recForest_good o (.cons t' rest) (recTree .fixed (summarize .fixed o) t c).2 b h.2
    rw [rec_cons]
    simp only [GoodL, Shape, DList.isNil, and_true]
    exact ⟨⟨g1, k1⟩, fun hk => ⟨(g2 hk).1, (g2 hk).2, k3⟩, k2⟩
end

end MythVerif.DagRec
