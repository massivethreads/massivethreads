import MythVerif.Proofs.WsQueueTsoParts
/-! Drains of the owner's buffered stores, one theorem per kind of store.  The clause `OwnerAt` of the
    owner's program counter lists the possible buffers, so naming the head of the buffer leaves the few
    program counters that can have such a store there and, for each, its one or two shapes; for these the
    global clauses, the owner's clause with the rest of the buffer and – outside the owner's locked
    sections – the clause of a lock holder are small goals over the owner's clause alone. -/
namespace MythVerif.WsqTso
open MythVerif.Wsq

attribute [local simp] OwnerAt CarryShape Pu2Shape PofShape Po5cShape Po6Shape Po8Shape Po9Shape InsShape Rc1Shape
  Rc2Shape RcPre RcShape Cl2Shape Cl3Shape

/-- a buffered shift entry is the `memmove` of the logical window by the pending offset -/
theorem shift_head (s : St) (h : Inv s) (lo hi off : Int) (rest : List Sto) (hb : s.bufO = .shift lo hi off :: rest) :
    lo = s.lb ∧ hi = s.lt ∧ off = s.sh ∧ resetting s.opc = true := by
  have hO := h.ownerAt
  cases hpc : s.opc <;> rw [hpc] at hO <;> simp [hb, resetting] at hO ⊢ <;> grind

/-- the memory-side window read at its top end -/
theorem mwin_last (A : List Elem) (ptr : Int → Option Elem) (lb lt top : Int) (g : Prop)
    (hlen : (A.length : Int) = lt - lb)
    (hmwin : ∀ k : Nat, k < A.length → (lb + k < top ∨ g) → ptr (lb + k) = A[k]?)
    (hA : A ≠ []) (ht : lt - 1 < top ∨ g) : ptr (lt - 1) = A.getLast? := by
  have hpos := List.length_pos_iff.mpr hA
  have := hmwin (A.length - 1) (by omega) (ht.elim (fun h => Or.inl (by omega)) Or.inr)
  rw [List.getLast?_eq_getElem?, ← this]; congr 1; omega

/-! ### The global clauses after a drain, from what the head of the buffer says -/

/-- no global clause reads the cache word -/
theorem Glob.drain_cache {s : St} {pc : OPc} {rest : List Sto} {x : Option Elem} (g : Glob s) (hpc : s.opc = pc) :
    Glob { s with bufO := rest, cache := x, opc := pc } := by
  subst hpc; cases g; constructor <;> assumption

/-- a `base` store of the owner carries `lb` and drains on the reset path, where `lbase` is silent -/
theorem Glob.drain_base {s : St} {pc : OPc} {rest : List Sto} (g : Glob s) (hpc : s.opc = pc)
    (hr : resetting pc = true) :
    Glob { s with bufO := rest, base := s.lb, tr := decide (s.lb = s.lb + 1), opc := pc } := by
  subst hpc
  have hd : decide (s.lb = s.lb + 1) = false := by simp; omega
  have hl := g.lockO.2 (resetting_locked _ hr)
  rw [hd]
  cases g
  constructor <;> first | assumption | grind

/-- a slot store outside the memory-side window -/
theorem Glob.drain_ptr {s : St} {pc : OPc} {rest : List Sto} {i : Int} {x : Option Elem} (g : Glob s)
    (hpc : s.opc = pc)
    (hout : ∀ k : Nat, k < s.A.length → (s.lb + k < s.top ∨ resetting pc = true) → s.lb + k ≠ i) :
    Glob { s with bufO := rest, ptr := upd s.ptr i x, opc := pc } := by
  subst hpc
  have hmwin := g.mwin
  cases g
  constructor
  case mwin => intro k hk hk2; rw [← hmwin k hk hk2]; exact upd_other _ _ _ _ (hout k hk hk2)
  all_goals assumption

/-- a `top` store: memory `top` stays at or below `lt` off the reset path, and a slot that enters the
    memory-side window holds its element of `A` -/
theorem Glob.drain_top {s : St} {pc : OPc} {rest : List Sto} {v : Int} (g : Glob s) (hpc : s.opc = pc)
    (hm : resetting pc = false → v ≤ s.lt)
    (hw : ∀ k : Nat, k < s.A.length → s.lb + k < v →
      s.lb + k < s.top ∨ resetting pc = true ∨ s.ptr (s.lb + k) = s.A[k]?) :
    Glob { s with bufO := rest, top := v, opc := pc } := by
  subst hpc
  have hmwin := g.mwin
  cases g
  constructor
  case mtop => exact hm
  case mwin =>
    intro k hk hk2
    rcases hk2 with hk2 | hk2
    · rcases hw k hk hk2 with h1 | h1 | h1
      · exact hmwin k hk (Or.inl h1)
      · exact hmwin k hk (Or.inr h1)
      · exact h1
    · exact hmwin k hk (Or.inr hk2)
  all_goals assumption

/-- the shift entry: slots and logical window move together; on the reset path the whole window is in memory -/
theorem Glob.drain_shift {s : St} {pc : OPc} {rest : List Sto} (g : Glob s) (hpc : s.opc = pc)
    (hr : resetting pc = true) :
    Glob { s with bufO := rest, ptr := shiftPtr s.ptr s.lb s.lt s.sh, lb := s.lb + s.sh, lt := s.lt + s.sh, sh := 0,
                  opc := pc } := by
  subst hpc
  have hmw := mwin_shift s.A s.ptr s.lb s.lt s.sh g.len (fun k hk => g.mwin k hk (Or.inr hr))
  cases g
  constructor
  case mwin => intro k hk _; exact hmw k hk
  all_goals first | assumption | grind

/-- A `top` store drains: memory `top` moves towards `lt`, or – the decrement of a pop – below it.  The
    slot that enters the memory-side window holds the last element (the buffer shape says so); the
    slot that leaves it was the last one (`mwin_last`), which the shape after the drain records. -/
theorem f_O_top (s s' : St) (v0) (rest : List Sto) : Inv s → s.bufO = .top v0 :: rest →
    s' = applySto { s with bufO := rest } (.top v0) → Inv s' := by
  intro h hb hs
  subst hs
  have g := h.glob
  have ho := h.ownerAt
  simp only [applySto]
  cases hpc : s.opc <;> rw [hpc] at ho <;> simp [hb] at ho
  all_goals
    have hlen := g.len
    have hmtop := g.mtop
    have hl := @List.getLast?_eq_getElem? _ s.A
    have hlast := mwin_last s.A s.ptr s.lb s.lt s.top _ g.len g.mwin
    simp only [hpc, resetting] at hmtop hlast
    -- inside the owner's locked sections nobody else holds the lock
    first
    | refine h.owner_step_alone (h.owner_locked hpc rfl) rfl rfl (g.drain_top hpc ?_ ?_) ?_
    | refine h.owner_step rfl rfl (g.drain_top hpc ?_ ?_) ?_ fun p hp hat =>
        hat.frame rfl rfl rfl (fun _ _ => rfl) ?_
  all_goals first
    | (guard_target = OwnerAt _ _
       simp only [OwnerAt, CarryShape, PofShape, Po8Shape, Po9Shape, Rc2Shape, InsShape, RcPre, RcShape, Cl3Shape, Pu2Shape]
       grind)
    | (simp only [hpc, resetting, popWin]
       grind)

theorem f_O_unlock (s s' : St) (rest : List Sto) : Inv s → s.bufO = .unlock :: rest →
    s' = applySto { s with bufO := rest } .unlock → Inv s' := by
  intro h hb hs
  have ho := h.ownerAt
  cases hpc : s.opc <;> rw [hpc] at ho <;> simp [hb] at ho

/-- A `base` store drains: the owner is on its reset path, where nobody reads `base`, and the value is `lb`. -/
theorem f_O_base (s s' : St) (v0) (rest : List Sto) : Inv s → s.bufO = .base v0 :: rest →
    s' = applySto { s with bufO := rest } (.base v0) → Inv s' := by
  intro h hb hs
  subst hs
  have g := h.glob
  have ho := h.ownerAt
  simp only [applySto]
  cases hpc : s.opc <;> rw [hpc] at ho <;> simp [hb] at ho
  all_goals
    have hv := h.owner_view hpc rfl
    have hv0 : v0 = s.lb := by grind
    subst hv0
    refine h.owner_step_alone (h.owner_locked hpc rfl) rfl rfl (g.drain_base hpc rfl) ?_
    simp only [OwnerAt, Po9Shape, InsShape, RcPre, RcShape, Cl2Shape, Cl3Shape, Pu2Shape]
    grind

/-- A slot store drains: the slot is outside the memory-side window (at or above memory `top`, at `lt`, or
    below `lb`), and a lock holder reads slots below memory `top` only. -/
theorem f_O_ptr (s s' : St) (i0 x0) (rest : List Sto) : Inv s → s.bufO = .ptr i0 x0 :: rest →
    s' = applySto { s with bufO := rest } (.ptr i0 x0) → Inv s' := by
  intro h hb hs
  subst hs
  have g := h.glob
  have ho := h.ownerAt
  simp only [applySto]
  cases hpc : s.opc <;> rw [hpc] at ho <;> simp [hb] at ho
  all_goals
    have hlen := g.len
    have hmtop := g.mtop
    simp only [hpc, resetting] at hmtop
    first
    | refine h.owner_step_alone (h.owner_locked hpc rfl) rfl rfl (g.drain_ptr hpc ?_) ?_
    | refine h.owner_step rfl rfl (g.drain_ptr hpc ?_) ?_ fun p hp hat => hat.frame rfl rfl rfl ?_ ?_
  all_goals first
    | (guard_target = OwnerAt _ _
       simp only [OwnerAt, CarryShape, Pu2Shape, PofShape, Po5cShape, Po6Shape, InsShape, RcPre]
       grind [upd_apply])
    | (simp only [hpc, resetting, popWin]
       grind [upd_apply])

/-- The inserting `base` store of put drains (its linearization point): the slot below `lb` has been
    written (`InsShape`), so the memory-side window grows by it (`mwin_cons`). -/
theorem f_O_baseI (s s' : St) (v : Int) (e : Elem) (rest : List Sto) : Inv s → s.bufO = .baseI v e :: rest →
    s' = applySto { s with bufO := rest } (.baseI v e) → Inv s' := by
  intro h hb hs
  subst hs
  have g := h.glob
  have ho := h.ownerAt
  simp only [applySto]
  cases hpc : s.opc <;> rw [hpc] at ho <;> simp [hb] at ho
  all_goals
    have hv := h.owner_view hpc rfl
    have hmw := mwin_cons s.A s.ptr s.lb s.top (resetting s.opc = true) e g.mwin
    refine h.owner_step_alone (h.owner_locked hpc rfl) rfl rfl ?_ ?_
  all_goals first
    | (guard_target = Glob _
       tso_glob_owner g hpc [])
    | (simp only [OwnerAt, InsShape, RcPre]
       grind)

theorem f_O_shift (s s' : St) (lo0 hi0 off0) (rest : List Sto) : Inv s → s.bufO = .shift lo0 hi0 off0 :: rest →
    s' = applySto { s with bufO := rest } (.shift lo0 hi0 off0) → Inv s' := by
  intro h hb hs
  subst hs
  obtain ⟨rfl, rfl, rfl, _⟩ := shift_head s h _ _ _ _ hb
  have g := h.glob
  have ho := h.ownerAt
  simp only [applySto]
  cases hpc : s.opc <;> rw [hpc] at ho <;> simp [hb] at ho
  all_goals
    refine h.owner_step_alone (h.owner_locked hpc rfl) rfl rfl (g.drain_shift hpc rfl) ?_
    simp only [OwnerAt, Rc1Shape, Rc2Shape, InsShape, RcPre, RcShape, Pu2Shape]
    grind

theorem f_O_cache (s s' : St) (x0) (rest : List Sto) : Inv s → s.bufO = .cache x0 :: rest →
    s' = applySto { s with bufO := rest } (.cache x0) → Inv s' := by
  intro h hb hs
  subst hs
  have g := h.glob
  have ho := h.ownerAt
  simp only [applySto]
  cases hpc : s.opc <;> rw [hpc] at ho <;> simp [hb] at ho
  all_goals
    refine h.owner_step_alone (h.owner_locked hpc rfl) rfl rfl (g.drain_cache hpc) ?_
    simp only [OwnerAt, Po6Shape]
    grind

end MythVerif.WsqTso
