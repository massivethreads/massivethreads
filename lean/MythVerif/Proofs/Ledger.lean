import MythVerif.Model.Ledger
/-! Invariants of the block ledger.  `InvN` (any number of workers) says where a block can be: in use, or on
exactly one free list; it stands behind "no block is handed out twice".  `Inv1` adds the counts that bound the
memory taken from the OS (`fresh = owned + free`, `fresh ≤ peak`); they need all operations to come from one
worker, since a `get` never looks at another worker's free list. -/
namespace MythVerif.Ledger

/-- single-worker invariant (all operations by worker 0) -/
structure Inv1 (s : St) : Prop where
  nd   : (s.owned ++ s.fl 0).Nodup
  lt   : ∀ a, a ∈ s.owned ++ s.fl 0 → a < s.next
  cnt  : s.fresh = s.owned.length + (s.fl 0).length
  pk   : s.owned.length ≤ s.peak
  fp   : s.fresh ≤ s.peak

theorem inv1_init : Inv1 init := by constructor <;> simp [init]

theorem inv1_step (s s' : St) (op : Op) (r : Option Addr) (hw : ∀ w a, op = .free w a → w = 0)
    (hg : ∀ w, op = .get w → w = 0) (h : Inv1 s) (hs : step s op = some (s', r)) : Inv1 s' := by
  obtain ⟨hnd, hlt, hcnt, hpk, hfp⟩ := h
  cases op with
  | get w =>
    have := hg w rfl; subst this
    simp only [step] at hs
    split at hs
    · rename_i a rest hfl
      simp at hs; obtain ⟨hs, _⟩ := hs; subst hs
      rw [hfl] at hnd hlt hcnt
      constructor
      · simp only [upd_same]
        have := hnd
        simp only [List.nodup_append, List.nodup_cons, List.mem_cons] at this ⊢
        grind
      · simp only [upd_same]; intro b hb; apply hlt b; simp at hb ⊢; grind
      · simp only [upd_same, List.length_cons] at *; omega
      · exact Nat.le_max_right _ _
      · exact Nat.le_trans hfp (Nat.le_max_left _ _)
    · rename_i hfl
      simp at hs; obtain ⟨hs, _⟩ := hs; subst hs
      rw [hfl] at hnd hlt hcnt
      simp only [List.append_nil, List.length_nil, Nat.add_zero] at *
      constructor
      · simp only [hfl, List.append_nil, List.nodup_cons]
        exact ⟨fun hm => Nat.lt_irrefl _ (hlt _ hm), hnd⟩
      · simp only [hfl, List.append_nil, List.mem_cons]
        rintro b (e | e)
        · subst e; exact Nat.lt_succ_self _
        · exact Nat.lt_succ_of_lt (hlt b e)
      · simp [hfl]; omega
      · exact Nat.le_max_right _ _
      · show s.fresh + 1 ≤ max s.peak (s.owned.length + 1)
        rw [hcnt]; exact Nat.le_max_right _ _
  | free w a =>
    have := hw w a rfl; subst this
    simp only [step] at hs
    split at hs
    · rename_i hm
      simp at hs; obtain ⟨hs, _⟩ := hs; subst hs
      have hnd' := hnd
      simp only [List.nodup_append] at hnd'
      obtain ⟨ho, hf, hd⟩ := hnd'
      constructor
      · simp only [upd_same, List.nodup_append, List.nodup_cons, List.mem_cons]
        refine ⟨ho.erase a, ⟨fun hm' => hd a hm a hm' rfl, hf⟩, ?_⟩
        intro x hx y hy
        have hx' := (List.Nodup.mem_erase_iff ho).mp hx
        rcases hy with e | e
        · subst e; exact hx'.1
        · exact hd x hx'.2 y e
      · simp only [upd_same]; intro b hb; apply hlt b
        simp only [List.mem_append, List.mem_cons] at hb ⊢
        rcases hb with e | e | e
        · exact Or.inl (List.mem_of_mem_erase e)
        · subst e; exact Or.inl hm
        · exact Or.inr e
      · simp only [upd_same, List.length_cons, List.length_erase_of_mem hm]
        have : 0 < s.owned.length := List.length_pos_of_mem hm
        omega
      · simp only [List.length_erase_of_mem hm]; omega
      · exact hfp
    · simp at hs

/-- any number of workers: every block is in exactly one place -/
structure InvN (s : St) : Prop where
  ond  : s.owned.Nodup
  fnd  : ∀ w, (s.fl w).Nodup
  dis  : ∀ w a, a ∈ s.fl w → a ∉ s.owned
  one  : ∀ w1 w2 a, a ∈ s.fl w1 → a ∈ s.fl w2 → w1 = w2
  lto  : ∀ a, a ∈ s.owned → a < s.next
  ltf  : ∀ w a, a ∈ s.fl w → a < s.next

theorem invN_init : InvN init := by constructor <;> simp [init]

theorem invN_step (s s' : St) (op : Op) (r : Option Addr) (h : InvN s) (hs : step s op = some (s', r)) :
    InvN s' := by
  obtain ⟨hond, hfnd, hdis, hone, hlto, hltf⟩ := h
  cases op with
  | get w =>
    simp only [step] at hs
    split at hs
    · rename_i a rest hfl
      simp at hs; obtain ⟨hs, _⟩ := hs; subst hs
      have hfw := hfnd w
      rw [hfl] at hfw
      have ha : a ∈ s.fl w := by simp [hfl]
      have hr : ∀ x, x ∈ rest → x ∈ s.fl w := fun x hx => by simp [hfl, hx]
      have hnd := List.nodup_cons.mp hfw
      constructor
      · exact List.nodup_cons.mpr ⟨hdis w a ha, hond⟩
      · intro w'; simp only [upd_apply]; split
        · exact hnd.2
        · exact hfnd w'
      · intro w' x hx; simp only [upd_apply] at hx
        simp only [List.mem_cons, not_or]
        split at hx
        · rename_i e; subst e
          exact ⟨fun e => by subst e; exact hnd.1 hx, hdis _ x (hr x hx)⟩
        · rename_i e
          exact ⟨fun e' => by subst e'; exact e (hone w' w x hx ha), hdis w' x hx⟩
      · intro w1 w2 x h1 h2; simp only [upd_apply] at h1 h2
        split at h1 <;> split at h2
        · simp_all
        · rename_i e1 e2; subst e1; exact (hone _ _ x (hr x h1) h2)
        · rename_i e1 e2; subst e2; exact (hone _ _ x h1 (hr x h2))
        · exact hone w1 w2 x h1 h2
      · intro x hx; simp only [List.mem_cons] at hx
        rcases hx with e | e
        · subst e; exact hltf w x ha
        · exact hlto x e
      · intro w' x hx; simp only [upd_apply] at hx
        split at hx
        · rename_i e; subst e; exact hltf _ x (hr x hx)
        · exact hltf w' x hx
    · rename_i hfl
      simp at hs; obtain ⟨hs, _⟩ := hs; subst hs
      constructor
      · exact List.nodup_cons.mpr ⟨fun hm => Nat.lt_irrefl _ (hlto _ hm), hond⟩
      · exact hfnd
      · intro w' x hx
        simp only [List.mem_cons, not_or]
        exact ⟨fun e => by subst e; exact Nat.lt_irrefl _ (hltf w' _ hx), hdis w' x hx⟩
      · exact hone
      · intro x hx; simp only [List.mem_cons] at hx
        rcases hx with e | e
        · subst e; exact Nat.lt_succ_self _
        · exact Nat.lt_succ_of_lt (hlto x e)
      · intro w' x hx; exact Nat.lt_succ_of_lt (hltf w' x hx)
  | free w a =>
    simp only [step] at hs
    split at hs
    · rename_i hm
      simp at hs; obtain ⟨hs, _⟩ := hs; subst hs
      have hne : ∀ w', a ∉ s.fl w' := fun w' hx => hdis w' a hx hm
      constructor
      · exact hond.erase a
      · intro w'; simp only [upd_apply]; split
        · rename_i e; subst e; exact List.nodup_cons.mpr ⟨hne _, hfnd _⟩
        · exact hfnd w'
      · intro w' x hx hxo
        have hxo' := (List.Nodup.mem_erase_iff hond).mp hxo
        simp only [upd_apply] at hx
        split at hx
        · simp only [List.mem_cons] at hx
          rcases hx with e | e
          · exact hxo'.1 e
          · exact hdis _ x e hxo'.2
        · exact hdis w' x hx hxo'.2
      · intro w1 w2 x h1 h2; simp only [upd_apply] at h1 h2
        split at h1 <;> split at h2
        · simp_all
        · rename_i e1 e2; subst e1
          simp only [List.mem_cons] at h1
          rcases h1 with e | e
          · subst e; exact absurd h2 (hne w2)
          · exact hone _ _ x e h2
        · rename_i e1 e2; subst e2
          simp only [List.mem_cons] at h2
          rcases h2 with e | e
          · subst e; exact absurd h1 (hne w1)
          · exact hone _ _ x h1 e
        · exact hone w1 w2 x h1 h2
      · intro x hx; exact hlto x (List.mem_of_mem_erase hx)
      · intro w' x hx; simp only [upd_apply] at hx
        split at hx
        · simp only [List.mem_cons] at hx
          rcases hx with e | e
          · subst e; exact hlto x hm
          · exact hltf _ x e
        · exact hltf w' x hx
    · simp at hs

theorem runOps_invN (ops : List Op) : ∀ (s s' : St), InvN s → runOps s ops = some s' → InvN s' := by
  induction ops with
  | nil => intro s s' h hr; simp [runOps] at hr; subst hr; exact h
  | cons op ops ih =>
    intro s s' h hr
    simp only [runOps] at hr
    split at hr
    · rename_i s1 r hs; exact ih s1 s' (invN_step s s1 op r h hs) hr
    · simp at hr

theorem runOps_inv1 (ops : List Op) (hw : ∀ op ∈ ops, (∀ w a, op = .free w a → w = 0) ∧ (∀ w, op = .get w → w = 0)) :
    ∀ (s s' : St), Inv1 s → runOps s ops = some s' → Inv1 s' := by
  induction ops with
  | nil => intro s s' h hr; simp [runOps] at hr; subst hr; exact h
  | cons op ops ih =>
    intro s s' h hr
    simp only [runOps] at hr
    split at hr
    · rename_i s1 r hs
      have ho := hw op (by simp)
      exact ih (fun o ho' => hw o (by simp [ho'])) s1 s' (inv1_step s s1 op r ho.1 ho.2 h hs) hr
    · simp at hr

end MythVerif.Ledger
